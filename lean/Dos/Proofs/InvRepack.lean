/-
`Inv` is preserved by repacking (the one operation that rewrites packs and moves rows).
-/
import Dos.Proofs.Read

namespace Dos

theorem rowBefore_iff (a b : Row) :
    rowBefore a b = true ↔ (a.off < b.off ∨ (a.off = b.off ∧ a.id < b.id)) := by
  simp only [rowBefore, Bool.or_eq_true, Bool.and_eq_true, decide_eq_true_eq, beq_iff_eq]

/-- the non-strict order of which `rowBefore` is the strict part -/
def rowLe (a b : Row) : Prop := a.off < b.off ∨ (a.off = b.off ∧ a.id ≤ b.id)

theorem rowLe_of_rowBefore {a b : Row} (h : rowBefore a b = true) : rowLe a b :=
  ((rowBefore_iff a b).mp h).imp_right (And.imp_right Nat.le_of_lt)

theorem rowLe_iff_not_rowBefore {a b : Row} : rowLe a b ↔ ¬ rowBefore b a = true := by
  rw [rowBefore_iff, not_or, not_and, Nat.not_lt, Nat.not_lt]
  constructor
  · rintro (h | ⟨e, h⟩)
    · exact ⟨Nat.le_of_lt h, fun e => absurd h (e ▸ Nat.lt_irrefl _)⟩
    · exact ⟨Nat.le_of_eq e, fun _ => h⟩
  · exact fun h => (Nat.lt_or_eq_of_le h.1).imp_right fun e => ⟨e, h.2 e.symm⟩

theorem rowLe_trans {a b c : Row} (h1 : rowLe a b) (h2 : rowLe b c) : rowLe a c := by
  rcases h1 with h1 | ⟨e1, i1⟩ <;> rcases h2 with h2 | ⟨e2, i2⟩
  · exact .inl (Nat.lt_trans h1 h2)
  · exact .inl (e2 ▸ h1)
  · exact .inl (e1 ▸ h2)
  · exact .inr ⟨e1.trans e2, Nat.le_trans i1 i2⟩

theorem insSort_byOff : InsSort (rowBefore · · = true) insByOff sortByOff := ⟨fun _ => rfl, fun _ _ _ => rfl, rfl, fun _ _ => rfl⟩

theorem sortByOff_perm (l : List Row) : (sortByOff l).Perm l := insSort_byOff.perm l

theorem mem_sortByOff {x : Row} {l : List Row} : x ∈ sortByOff l ↔ x ∈ l := (sortByOff_perm l).mem_iff

theorem sortByOff_sorted (l : List Row) : (sortByOff l).Pairwise rowLe :=
  insSort_byOff.sorted (fun _ _ => rowLe_of_rowBefore) (fun _ _ => rowLe_iff_not_rowBefore.mpr) rowLe_trans l

theorem rebuild_nil (t : Tab) (p : Nat) (zs : List Bool) (off : Nat) : rebuild t p [] zs off = ([], []) := rfl

theorem rebuild_cons (t : Tab) (p : Nat) (r : Row) (rs : List Row) (zs : List Bool) (off : Nat) :
    rebuild t p (r :: rs) zs off =
      ((⟨r.key, zs.headD r.z⟩ : Seg) :: (rebuild t p rs zs.tail (off + Seg.len t ⟨r.key, zs.headD r.z⟩)).1,
       { r with pack := p, off := off, len := Seg.len t ⟨r.key, zs.headD r.z⟩, z := zs.headD r.z } ::
         (rebuild t p rs zs.tail (off + Seg.len t ⟨r.key, zs.headD r.z⟩)).2) := rfl

theorem rebuild_keys (t : Tab) (p : Nat) (rs : List Row) (zs : List Bool) (off : Nat) :
    (rebuild t p rs zs off).2.map (·.key) = rs.map (·.key) := by
  induction rs generalizing zs off with
  | nil => rfl
  | cons r rs ih => simp only [rebuild_cons, List.map_cons, ih]

theorem rebuild_ids (t : Tab) (p : Nat) (rs : List Row) (zs : List Bool) (off : Nat) :
    (rebuild t p rs zs off).2.map (·.id) = rs.map (·.id) := by
  induction rs generalizing zs off with
  | nil => rfl
  | cons r rs ih => simp only [rebuild_cons, List.map_cons, ih]

theorem rebuild_segs (t : Tab) (p : Nat) (rs : List Row) (zs : List Bool) (off : Nat) :
    (rebuild t p rs zs off).1 = (rebuild t p rs zs off).2.map (fun r => (⟨r.key, r.z⟩ : Seg)) := by
  induction rs generalizing zs off with
  | nil => rfl
  | cons r rs ih => simp only [rebuild_cons, List.map_cons, ← ih]

/-- `r'` is what `rebuild t q` makes of the row `r` -/
structure CopyOf (t : Tab) (q : Nat) (r r' : Row) : Prop where
  key : r'.key = r.key
  id : r'.id = r.id
  size : r'.size = r.size
  pack : r'.pack = q
  len : r'.len = Seg.len t ⟨r'.key, r'.z⟩

theorem rebuild_mem {t : Tab} {p : Nat} {rs : List Row} {zs : List Bool} {off : Nat} {r' : Row}
    (h : r' ∈ (rebuild t p rs zs off).2) :
    ∃ r ∈ rs, CopyOf t p r r' ∧ (zs.length = rs.length → (r, r'.z) ∈ rs.zip zs) := by
  induction rs generalizing zs off with
  | nil => cases h
  | cons r rs ih =>
    rw [rebuild_cons] at h
    rcases List.mem_cons.mp h with h | h
    · subst h
      refine ⟨r, List.mem_cons_self, ⟨rfl, rfl, rfl, rfl, rfl⟩, fun hl => ?_⟩
      cases zs with
      | nil => cases hl
      | cons z zs => exact List.mem_cons_self
    · obtain ⟨r0, hm, c, hz⟩ := ih h
      refine ⟨r0, List.mem_cons_of_mem _ hm, c, fun hl => ?_⟩
      cases zs with
      | nil => cases hl
      | cons z zs => exact List.mem_cons_of_mem _ (hz (Nat.succ.inj hl))

theorem rebuild_layout {t : Tab} {p : Nat} {rs : List Row} {zs : List Bool} {off : Nat} {r' : Row}
    (h : r' ∈ (rebuild t p rs zs off).2) :
    ∃ pre post, (rebuild t p rs zs off).1 = pre ++ (⟨r'.key, r'.z⟩ : Seg) :: post ∧
      r'.off = off + segsLen t pre := by
  induction rs generalizing zs off with
  | nil => cases h
  | cons r rs ih =>
    rw [rebuild_cons] at h ⊢
    rcases List.mem_cons.mp h with h | h
    · subst h
      exact ⟨[], _, rfl, rfl⟩
    · obtain ⟨pre, post, h1, h2⟩ := ih h
      exact ⟨(⟨r.key, zs.headD r.z⟩ : Seg) :: pre, post, congrArg (_ :: ·) h1, h2.trans (Nat.add_assoc ..)⟩

theorem rebuild_pairwise (t : Tab) (p : Nat) (rs : List Row) (zs : List Bool) (off : Nat) :
    (rebuild t p rs zs off).2.Pairwise (fun a b => a.off + a.len ≤ b.off) ∧
      ∀ r' ∈ (rebuild t p rs zs off).2, off ≤ r'.off := by
  induction rs generalizing zs off with
  | nil => exact ⟨.nil, nofun⟩
  | cons r rs ih =>
    rw [rebuild_cons]
    obtain ⟨h1, h2⟩ := ih zs.tail (off + Seg.len t ⟨r.key, zs.headD r.z⟩)
    constructor
    · exact List.pairwise_cons.mpr ⟨h2, h1⟩
    · intro r' hr'
      rcases List.mem_cons.mp hr' with rfl | h
      · exact Nat.le_refl _
      · exact Nat.le_trans (Nat.le_add_right ..) (h2 r' h)

/-- the row update performed by `repackPack` -/
def repackRow (p : Nat) (rs' : List Row) (r : Row) : Row :=
  if r.pack == p then (findRow rs' r.key).getD r else r

theorem repackRow_key (p : Nat) (rs' : List Row) (r : Row) : (repackRow p rs' r).key = r.key := by
  unfold repackRow
  split
  · cases hf : findRow rs' r.key with
    | none => rfl
    | some r' => exact (findRow_some hf).2
  · rfl

theorem repackRow_of_ne {p : Nat} {r : Row} (rs' : List Row) (h : r.pack ≠ p) : repackRow p rs' r = r :=
  if_neg (mt beq_iff_eq.mp h)

theorem repackRow_of_eq {p : Nat} {r : Row} (rs' : List Row) (h : r.pack = p) :
    repackRow p rs' r = (findRow rs' r.key).getD r :=
  if_pos (beq_iff_eq.mpr h)

/-- the rows of pack `p` in the order in which `repackPack` copies them -/
abbrev srt (s : St) (p : Nat) : List Row := sortByOff (rowsOfPack s.rows p)

/-- the rows of pack `p` rebuilt in pack `q`: `repackPack` has `q = p`, the action list of Level C copies into the temporary
    pack first -/
abbrev rebuilt (t : Tab) (s : St) (p q : Nat) (zs : List Bool) : List Row := (rebuild t q (srt s p) zs 0).2

/-- the index after the rows of pack `p` have moved to pack `q` -/
abbrev movedRows (t : Tab) (s : St) (p q : Nat) (zs : List Bool) : List Row :=
  s.rows.map (repackRow p (rebuilt t s p q zs))

theorem repackPack_eq_some {t : Tab} {s s' : St} {m : Mode} {p : Nat} {order : List Nat} {zs : List Bool} :
    repackPack t s m p order zs = some s' ↔
    (rowsOfPack s.rows p = [] ∧ order = [] ∧ { s with packs := erasePack s.packs p } = s') ∨
    (rowsOfPack s.rows p ≠ [] ∧ order = (srt s p).map (·.key) ∧ zs.length = order.length ∧
      (∀ rz ∈ (srt s p).zip zs, verdictOK m rz.1.z rz.1.len rz.1.size rz.2 = true) ∧
      { s with packs := setPack s.packs p (rebuild t p (srt s p) zs 0).1, rows := movedRows t s p p zs } = s') := by
  unfold repackPack movedRows rebuilt srt repackRow
  cases rowsOfPack s.rows p <;>
  simp only [Option.ite_none_left_eq_some, Option.ite_none_right_eq_some, Bool.not_eq_true', bne_iff_ne, ne_eq,
    Decidable.not_not, Bool.not_eq_false, List.all_eq_true, Option.some.injEq, List.isEmpty_iff, true_and, false_and,
    or_false, false_or, not_true_eq_false, reduceCtorEq, not_false_eq_true]

theorem mem_rowsOfPack {rows : List Row} {p : Nat} {r : Row} : r ∈ rowsOfPack rows p ↔ r ∈ rows ∧ r.pack = p := by
  simp only [rowsOfPack, List.mem_filter, beq_iff_eq]

theorem srt_map_nodup {β} {f : Row → β} {s : St} (h : (s.rows.map f).Nodup) (p : Nat) : ((srt s p).map f).Nodup :=
  ((sortByOff_perm _).map f).nodup_iff.mpr (h.sublist (List.filter_sublist.map f))

theorem findRow_rebuilt (t : Tab) {s : St} (p q : Nat) (zs : List Bool) {r : Row} (hr : r ∈ s.rows) (hp : r.pack = p) :
    findRow (rebuilt t s p q zs) r.key = some (repackRow p (rebuilt t s p q zs) r) := by
  have hk : r.key ∈ (rebuilt t s p q zs).map (·.key) := by
    rw [rebuild_keys]
    exact List.mem_map_of_mem (mem_sortByOff.mpr (mem_rowsOfPack.mpr ⟨hr, hp⟩))
  rw [repackRow_of_eq _ hp]
  cases hf : findRow (rebuilt t s p q zs) r.key with
  | none => exact absurd hk (findRow_none_iff.mp hf)
  | some r' => rfl

theorem repackRow_mem (t : Tab) {s : St} (p q : Nat) (zs : List Bool) {r : Row} (hr : r ∈ s.rows) (hp : r.pack = p) :
    repackRow p (rebuilt t s p q zs) r ∈ rebuilt t s p q zs :=
  (findRow_some (findRow_rebuilt t p q zs hr hp)).1

/-- the copy is made from `r` itself: under `Inv` no other row has its key -/
theorem repackRow_spec {t : Tab} {s : St} (inv : Inv t s) (p q : Nat) (zs : List Bool) {r : Row} (hr : r ∈ s.rows)
    (hp : r.pack = p) :
    CopyOf t q r (repackRow p (rebuilt t s p q zs) r) ∧
    (zs.length = (srt s p).length → (r, (repackRow p (rebuilt t s p q zs) r).z) ∈ (srt s p).zip zs) := by
  obtain ⟨r0, hr0, c, hz⟩ := rebuild_mem (repackRow_mem t p q zs hr hp)
  have hr0' : r0 ∈ s.rows := (mem_rowsOfPack.mp (mem_sortByOff.mp hr0)).1
  obtain rfl : r0 = r := eq_of_map_nodup inv.keys_nodup hr0' hr (c.key.symm.trans (repackRow_key ..))
  exact ⟨c, hz⟩

theorem repackRow_copy {t : Tab} {s : St} (inv : Inv t s) (p q : Nat) (zs : List Bool) {r : Row} (hr : r ∈ s.rows)
    (hp : r.pack = p) : CopyOf t q r (repackRow p (rebuilt t s p q zs) r) :=
  (repackRow_spec inv p q zs hr hp).1

theorem repackRow_id {t : Tab} {s : St} (inv : Inv t s) (p q : Nat) (zs : List Bool) {r : Row} (hr : r ∈ s.rows) :
    (repackRow p (rebuilt t s p q zs) r).id = r.id := by
  by_cases hp : r.pack = p
  · exact (repackRow_copy inv p q zs hr hp).id
  · rw [repackRow_of_ne _ hp]

theorem repackRow_size {t : Tab} {s : St} (inv : Inv t s) (p q : Nat) (zs : List Bool) {r : Row} (hr : r ∈ s.rows) :
    (repackRow p (rebuilt t s p q zs) r).size = r.size := by
  by_cases hp : r.pack = p
  · exact (repackRow_copy inv p q zs hr hp).size
  · rw [repackRow_of_ne _ hp]

theorem repackRow_pack {t : Tab} {s : St} (inv : Inv t s) (p : Nat) (zs : List Bool) {r : Row} (hr : r ∈ s.rows) :
    (repackRow p (rebuilt t s p p zs) r).pack = r.pack := by
  by_cases hp : r.pack = p
  · exact (repackRow_copy inv p p zs hr hp).pack.trans hp.symm
  · rw [repackRow_of_ne _ hp]

theorem movedRows_keys (t : Tab) (s : St) (p q : Nat) (zs : List Bool) :
    (movedRows t s p q zs).map (·.key) = s.rows.map (·.key) := by
  rw [List.map_map]
  exact List.map_congr_left fun r _ => repackRow_key p _ r

theorem movedRows_ids {t : Tab} {s : St} (inv : Inv t s) (p q : Nat) (zs : List Bool) :
    (movedRows t s p q zs).map (·.id) = s.rows.map (·.id) := by
  rw [List.map_map]
  exact List.map_congr_left fun r hr => repackRow_id inv p q zs hr

theorem movedRows_sizes {t : Tab} {s : St} (inv : Inv t s) (p q : Nat) (zs : List Bool) :
    (movedRows t s p q zs).map (·.size) = s.rows.map (·.size) := by
  rw [List.map_map]
  exact List.map_congr_left fun r hr => repackRow_size inv p q zs hr

/-- under `Inv`, sorting the rows of a pack by offset sorts them by id -/
theorem srt_ordered {t : Tab} {s : St} (inv : Inv t s) (p : Nat) :
    (srt s p).Pairwise (fun a b => a.id < b.id ∧ a.off + a.len ≤ b.off) := by
  have hmem : ∀ a ∈ srt s p, a ∈ s.rows ∧ a.pack = p :=
    fun a ha => mem_rowsOfPack.mp (mem_sortByOff.mp ha)
  have hids : (srt s p).Pairwise (fun a b => a.id ≠ b.id) := List.pairwise_map.mp (srt_map_nodup inv.ids_nodup p)
  refine List.Pairwise.imp_of_mem ?_ ((sortByOff_sorted (rowsOfPack s.rows p)).and hids)
  intro a b ha hb ⟨hle, hne⟩
  obtain ⟨ha1, ha2⟩ := hmem a ha
  obtain ⟨hb1, hb2⟩ := hmem b hb
  rcases Nat.lt_or_gt_of_ne hne with h | h
  · exact ⟨h, inv.ids_pos a ha1 b hb1 (ha2.trans hb2.symm) h⟩
  · -- `b` with the smaller id would end before `a` starts, yet `a` is sorted in front of it
    have := inv.ids_pos b hb1 a ha1 (hb2.trans ha2.symm) h
    rcases hle with hlt | ⟨_, hid⟩
    · exact absurd (Nat.le_trans (Nat.le_add_right ..) this) (Nat.not_le.mpr hlt)
    · exact absurd h (Nat.not_lt.mpr hid)

theorem rebuilt_ordered {t : Tab} {s : St} (inv : Inv t s) (p q : Nat) (zs : List Bool) :
    (rebuilt t s p q zs).Pairwise (fun a b => a.id < b.id ∧ a.off + a.len ≤ b.off) := by
  have h0 : ((srt s p).map (·.id)).Pairwise (· < ·) := List.pairwise_map.mpr ((srt_ordered inv p).imp (·.1))
  rw [← rebuild_ids t q _ zs 0] at h0
  exact (List.pairwise_map.mp h0).and (rebuild_pairwise t q (srt s p) zs 0).1

theorem rebuilt_pos {t : Tab} {s : St} (inv : Inv t s) (p q : Nat) (zs : List Bool) {a b : Row}
    (ha : a ∈ rebuilt t s p q zs) (hb : b ∈ rebuilt t s p q zs) (hlt : a.id < b.id) : a.off + a.len ≤ b.off := by
  rcases pairwise_trichotomy (rebuilt_ordered inv p q zs) ha hb with rfl | h | h
  · exact absurd hlt (Nat.lt_irrefl _)
  · exact h.2
  · exact absurd hlt (Nat.lt_asymm h.1)

/-- `P` is constrained through lookups (and `nd`) only: at Level C an unlink and a link may have reordered the list of
    pack files -/
theorem inv_moved {t : Tab} {s : St} (inv : Inv t s) (p q : Nat) (zs : List Bool)
    (hq : ∀ r ∈ s.rows, r.pack ≠ p → r.pack ≠ q) {P : Packs} (nd : (P.map (·.1)).Nodup)
    (h1 : getPack P q = some (rebuild t q (srt s p) zs 0).1)
    (h2 : ∀ r ∈ s.rows, r.pack ≠ p → getPack P r.pack = getPack s.packs r.pack) :
    Inv t { s with packs := P, rows := movedRows t s p q zs } := by
  refine { inv with packs_nodup := nd, rows_ok := ?_, keys_nodup := ?_, ids_nodup := ?_, ids_pos := ?_ }
  · intro r' hr'
    obtain ⟨r, hr, rfl⟩ := List.mem_map.mp hr'
    by_cases hp : r.pack = p
    · have c := repackRow_copy inv p q zs hr hp
      obtain ⟨pre, post, hl1, hl2⟩ := rebuild_layout (repackRow_mem t p q zs hr hp)
      exact ⟨_, pre, post, by rw [c.pack]; exact h1, hl1, hl2.trans (Nat.zero_add _), c.len,
        by rw [c.size, c.key, (inv.rows_ok r hr).size]⟩
    · rw [repackRow_of_ne _ hp]
      obtain ⟨segs, hg, hs⟩ := IO.rowOK_iff.mp (inv.rows_ok r hr)
      exact IO.rowOK_iff.mpr ⟨segs, (h2 r hr hp).trans hg, hs⟩
  · exact (movedRows_keys t s p q zs).symm ▸ inv.keys_nodup
  · exact (movedRows_ids inv p q zs).symm ▸ inv.ids_nodup
  · intro r1' h1' r2' h2' hpack hlt
    obtain ⟨r1, hr1, rfl⟩ := List.mem_map.mp h1'
    obtain ⟨r2, hr2, rfl⟩ := List.mem_map.mp h2'
    by_cases hp1 : r1.pack = p <;> by_cases hp2 : r2.pack = p
    · exact rebuilt_pos inv p q zs (repackRow_mem t p q zs hr1 hp1) (repackRow_mem t p q zs hr2 hp2) hlt
    · rw [(repackRow_copy inv p q zs hr1 hp1).pack, repackRow_of_ne _ hp2] at hpack
      exact absurd hpack.symm (hq r2 hr2 hp2)
    · rw [(repackRow_copy inv p q zs hr2 hp2).pack, repackRow_of_ne _ hp1] at hpack
      exact absurd hpack (hq r1 hr1 hp1)
    · rw [repackRow_of_ne _ hp1, repackRow_of_ne _ hp2] at hpack hlt ⊢
      exact inv.ids_pos r1 hr1 r2 hr2 hpack hlt

theorem inv_rebuilt {t : Tab} {s : St} (inv : Inv t s) (p : Nat) (zs : List Bool) :
    Inv t { s with packs := setPack s.packs p (rebuild t p (srt s p) zs 0).1, rows := movedRows t s p p zs } :=
  inv_moved inv p p zs (fun _ _ h => h) (nodup_keys_setPack p _ inv.packs_nodup) (getPack_setPack_eq)
    (fun _ _ h => getPack_setPack_ne h)

theorem inv_erased {t : Tab} {s : St} (inv : Inv t s) (p : Nat) (h : rowsOfPack s.rows p = []) :
    Inv t { s with packs := erasePack s.packs p } := by
  refine { inv with packs_nodup := inv.packs_nodup.sublist (keys_erasePack_sublist s.packs p), rows_ok := fun r hr => ?_ }
  have hp : r.pack ≠ p := fun hp => List.not_mem_nil (h ▸ mem_rowsOfPack.mpr ⟨hr, hp⟩)
  obtain ⟨segs, hg, hs⟩ := IO.rowOK_iff.mp (inv.rows_ok r hr)
  exact IO.rowOK_iff.mpr ⟨segs, (getPack_erasePack_ne hp).trans hg, hs⟩

theorem inv_repackPack {t : Tab} {s s' : St} (inv : Inv t s) {m : Mode} {p : Nat} {order : List Nat} {zs : List Bool}
    (h : repackPack t s m p order zs = some s') : Inv t s' := by
  rcases repackPack_eq_some.mp h with ⟨hnil, _, rfl⟩ | ⟨_, _, _, _, rfl⟩
  · exact inv_erased inv p hnil
  · exact inv_rebuilt inv p zs

theorem repackAll_nil_eq_some {t : Tab} {m : Mode} {s s' : St} : repackAll t m s [] = some s' ↔ s = s' :=
  Option.some_inj

theorem repackAll_cons_eq_some {t : Tab} {m : Mode} {s s' : St} {e : Nat × List Nat × List Bool}
    {rest : List (Nat × List Nat × List Bool)} :
    repackAll t m s (e :: rest) = some s' ↔
      ∃ s1, repackPack t s m e.1 e.2.1 e.2.2 = some s1 ∧ repackAll t m s1 rest = some s' := by
  obtain ⟨p, order, zs⟩ := e
  simp only [repackAll]
  cases repackPack t s m p order zs <;> simp

theorem inv_repackAll {t : Tab} {m : Mode} {plan : List (Nat × List Nat × List Bool)} {s s' : St} (inv : Inv t s)
    (h : repackAll t m s plan = some s') : Inv t s' := by
  induction plan generalizing s with
  | nil => exact repackAll_nil_eq_some.mp h ▸ inv
  | cons e rest ih =>
    obtain ⟨s1, hs1, h⟩ := repackAll_cons_eq_some.mp h
    exact ih (inv_repackPack inv hs1) h

end Dos
