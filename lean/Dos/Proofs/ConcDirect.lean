/-
Direct-to-pack writers (`no_holes=False`) and `import_objects` as the packer of C04.  C15 asks more of a schedule
(`Backup.bdisciplined`: `disciplined` and `layoutOKb` of the working copy at every commit); no theorem derives that for
these programs or for `pack_all_loose`: in C15 it is a hypothesis.
-/
import Dos.Proofs.ConcProofs

namespace Dos.Conc
open Dos Dos.IO

theorem addPackedO_disciplined {t : Tab} (wf : t.WF) {s : St} (inv : Inv t s) (wkeys rkeys : List Nat)
    (cs : List Nat) (z rt doFsync : Bool) (sched : List Ev)
    (hp : ∃ rest, actsAddPackedO t s cs z false rt doFsync = pkActs sched ++ rest) :
    disciplined t (CSt.init s wkeys rkeys) sched = true :=
  disciplined_init wkeys rkeys (allowed_addPackedO wf inv cs z rt doFsync) hp

theorem import_disciplined {t : Tab} (wf : t.WF) {s : St} (inv : Inv t s) (wkeys rkeys : List Nat)
    (calls : List (List Nat)) (z rt doFsync : Bool) (sched : List Ev)
    (hp : ∃ rest, actsImport t s calls z false rt doFsync = pkActs sched ++ rest) :
    disciplined t (CSt.init s wkeys rkeys) sched = true :=
  disciplined_init wkeys rkeys (allowed_import wf inv calls z rt doFsync) hp

end Dos.Conc
