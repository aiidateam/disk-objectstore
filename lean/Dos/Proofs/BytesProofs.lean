/-
C12 (second half): whatever the bytes on disk and whatever the index says, if `validate()` reports nothing then every
object reads back as bytes whose digest is its key and whose length is its recorded size; so, digests being
collision-free, an object that reads back as different bytes, or is indexed and cannot be read, is always reported.
C01 (write side): the chunk loops hash and store exactly the bytes they are given, whatever the chunk size.
-/
import Dos.Bytes
import Dos.Proofs.ListAux

namespace Dos.Bytes

/-- what a clean `validate()` says -/
theorem validateClean_iff (a : Algo) (s : BStore) :
    validateClean a s = true ↔
      (∀ e ∈ s.loose, a.H e.2 = e.1) ∧
      ∀ r ∈ s.rows, ∃ b, readRowB a s r = some b ∧ a.H b = r.key ∧ b.length = r.size := by
  simp only [validateClean, badLoose, badPacked, Bool.and_eq_true, List.isEmpty_iff, List.map_eq_nil_iff,
    List.filter_eq_nil_iff]
  refine and_congr (forall₂_congr fun e _ => by simp) (forall₂_congr fun r _ => ?_)
  cases readRowB a s r <;> simp

theorem validate_sound_readable (a : Algo) (s : BStore) (hv : validateClean a s = true) (r : BRow) (hr : r ∈ s.rows) :
    ∃ b, readRowB a s r = some b ∧ a.H b = r.key ∧ b.length = r.size :=
  ((validateClean_iff a s).1 hv).2 r hr

theorem findRowB_some {rows : List BRow} {k : Nat} {r : BRow} (h : findRowB rows k = some r) :
    r ∈ rows ∧ r.key = k :=
  ⟨List.mem_of_find?_eq_some h, by simpa using List.find?_some h⟩

theorem findLooseB_some {l : List (Nat × Bytes)} {k : Nat} {b : Bytes} (h : findLooseB l k = some b) :
    ∃ e ∈ l, e.1 = k ∧ e.2 = b := by
  obtain ⟨e, he, rfl⟩ := Option.map_eq_some_iff.mp h
  exact ⟨e, List.mem_of_find?_eq_some he, by simpa using List.find?_some he, rfl⟩

theorem validate_sound (a : Algo) (s : BStore) (hv : validateClean a s = true)
    (hu : (s.loose.map (·.1)).Nodup) (k : Nat) (b : Bytes) (hg : getB a s k = some b) :
    a.H b = k ∧ (∀ r, findRowB s.rows k = some r → b.length = r.size) := by
  have _ := hu
  unfold getB at hg
  cases hf : findRowB s.rows k with
  | some r0 =>
    rw [hf] at hg
    obtain ⟨hmem, hkey⟩ := findRowB_some hf
    obtain ⟨b', hb', hH, hlen⟩ := validate_sound_readable a s hv r0 hmem
    cases hg.symm.trans hb'
    exact ⟨hH.trans hkey, fun r hr => by cases hr; exact hlen⟩
  | none =>
    rw [hf] at hg
    obtain ⟨e, he, hk, rfl⟩ := findLooseB_some hg
    exact ⟨(((validateClean_iff a s).1 hv).1 e he).trans hk, nofun⟩

/-- the contrapositive, which C12 uses; `hinj`: the digest is collision-free -/
theorem damaged_never_clean (a : Algo) (s : BStore) (hu : (s.loose.map (·.1)).Nodup)
    (hinj : ∀ x y, a.H x = a.H y → x = y) (k : Nat) (c : Bytes) (hk : a.H c = k)
    (hd : (∃ b, getB a s k = some b ∧ b ≠ c) ∨ (∃ r, r ∈ s.rows ∧ r.key = k ∧ readRowB a s r = none) ∨
          (∃ r b, r ∈ s.rows ∧ r.key = k ∧ readRowB a s r = some b ∧ b.length ≠ r.size)) :
    validateClean a s = false := by
  refine Bool.eq_false_iff.2 fun hv => ?_
  rcases hd with ⟨b, hg, hne⟩ | ⟨r, hr, _, hnone⟩ | ⟨r, b, hr, _, hsome, hlen⟩
  · exact hne (hinj b c ((validate_sound a s hv hu k b hg).1.trans hk.symm))
  · obtain ⟨b, hb, _⟩ := validate_sound_readable a s hv r hr
    cases hnone.symm.trans hb
  · obtain ⟨b', hb', _, hl⟩ := validate_sound_readable a s hv r hr
    cases hsome.symm.trans hb'
    exact hlen hl

theorem chunksOf_spec (n : Nat) (hn : 0 < n) (b : Bytes) :
    (chunksOf n b).flatten = b ∧ ∀ ch ∈ chunksOf n b, ch ≠ [] ∧ ch.length ≤ n := by
  rw [chunksOf, if_neg (Nat.ne_of_gt hn)]
  exact chunks_spec_of n hn (readChunks n) (fun _ => rfl) (fun _ => rfl) (fun _ _ _ => rfl) _ b (Nat.le_refl _)

/-! The left-hand sides of `fold_plain` and `fold_comp` are the fold of `writeData` as `unfold writeData` leaves it once
`compress` is `false` or `true`: the step function word for word, the test `if false = true` or `if true = true`
still in it, so that `rw` finds them in `writeData_spec`. -/

theorem fold_plain {σ κ} (h : Hasher σ) (c : Compressor κ) (chunks : List Bytes) :
    ∀ (out0 : Bytes) (cnt0 : Nat) (hs0 : σ) (cs0 : κ),
    chunks.foldl (fun (acc : Bytes × Nat × σ × κ) ch =>
      let (out, cnt, hs, cs) := acc
      if false = true then
        let (cs', o) := c.compress cs ch
        (out ++ o, cnt + ch.length, h.update hs ch, cs')
      else (out ++ ch, cnt + ch.length, h.update hs ch, cs)) (out0, cnt0, hs0, cs0)
    = (out0 ++ chunks.flatten, cnt0 + chunks.flatten.length, chunks.foldl h.update hs0, cs0) := by
  induction chunks with
  | nil => intro out0 cnt0 hs0 cs0; rw [List.flatten_nil, List.append_nil]; rfl
  | cons ch rest ih =>
    intro out0 cnt0 hs0 cs0
    -- on an explicit tuple the step function computes: `ih` at the accumulator after one step
    refine (ih (out0 ++ ch) (cnt0 + ch.length) (h.update hs0 ch) cs0).trans ?_
    rw [List.flatten_cons, List.length_append, List.append_assoc, Nat.add_assoc, List.foldl_cons]

theorem fold_comp {σ κ} (h : Hasher σ) (c : Compressor κ) (chunks : List Bytes) :
    ∀ (out0 : Bytes) (cnt0 : Nat) (hs0 : σ) (cs0 : κ),
    chunks.foldl (fun (acc : Bytes × Nat × σ × κ) ch =>
      let (out, cnt, hs, cs) := acc
      if true = true then
        let (cs', o) := c.compress cs ch
        (out ++ o, cnt + ch.length, h.update hs ch, cs')
      else (out ++ ch, cnt + ch.length, h.update hs ch, cs)) (out0, cnt0, hs0, cs0)
    = ((chunks.foldl (fun (acc : κ × Bytes) ch => let (k', o) := c.compress acc.1 ch; (k', acc.2 ++ o)) (cs0, out0)).2,
       cnt0 + chunks.flatten.length, chunks.foldl h.update hs0,
       (chunks.foldl (fun (acc : κ × Bytes) ch => let (k', o) := c.compress acc.1 ch; (k', acc.2 ++ o)) (cs0, out0)).1) := by
  induction chunks with
  | nil => intro out0 cnt0 hs0 cs0; rfl
  | cons ch rest ih =>
    intro out0 cnt0 hs0 cs0
    refine (ih (out0 ++ (c.compress cs0 ch).2) (cnt0 + ch.length) (h.update hs0 ch) (c.compress cs0 ch).1).trans ?_
    rw [List.flatten_cons, List.length_append, Nat.add_assoc]
    rfl

/-- `_write_data_to_packfile`, for every hasher and compressor obeying their incremental laws (`hlaw`, `claw`) and every chunk
    size: the count is the content length, the digest that of the whole content, and what is appended to the pack is the
    content itself or a stream that decodes to it -/
theorem writeData_spec {σ κ : Type} (h : Hasher σ) (c : Compressor κ) (hashOf : Bytes → Nat) (decode : Bytes → Option Bytes)
    (hlaw : ∀ chunks : List Bytes, h.digest (chunks.foldl h.update h.init) = hashOf chunks.flatten)
    (claw : ∀ chunks : List Bytes,
        decode ((chunks.foldl (fun (acc : κ × Bytes) ch => let (k', o) := c.compress acc.1 ch; (k', acc.2 ++ o)) (c.init, [])).2 ++
                c.flush (chunks.foldl (fun (acc : κ × Bytes) ch => let (k', o) := c.compress acc.1 ch; (k', acc.2 ++ o)) (c.init, [])).1)
          = some chunks.flatten)
    (n : Nat) (hn : 0 < n) (b : Bytes) (compress : Bool) :
    (writeData h c compress (chunksOf n b)).2.1 = b.length ∧
    (writeData h c compress (chunksOf n b)).2.2 = hashOf b ∧
    (if compress then decode (writeData h c compress (chunksOf n b)).1 = some b
     else (writeData h c compress (chunksOf n b)).1 = b) := by
  have hfl := (chunksOf_spec n hn b).1
  have hl := hlaw (chunksOf n b)
  have cl := claw (chunksOf n b)
  rw [hfl] at hl cl
  generalize chunksOf n b = chunks at *
  cases compress with
  | false =>
    unfold writeData
    rw [fold_plain]
    simp [hfl, hl]
  | true =>
    unfold writeData
    rw [fold_comp]
    simp [hfl, hl, cl]

end Dos.Bytes
