/-
Folder bookkeeping of `backup_auto_folders`.  The hypothesis of `run_good`, that every new backup gets a name sorting after
all existing ones (`Increasing`), is what the timestamp with microseconds guarantees for backups taken one after the other;
without it the backup just taken can be the one deleted (`unordered_names_lose_the_new_backup`).
-/
import Dos.BackupFolders
import Dos.Proofs.ListAux

namespace Dos.BackupFolders

def Sorted : List Nat → Prop
  | [] => True
  | [_] => True
  | x :: y :: rest => x < y ∧ Sorted (y :: rest)

/-- the state invariant: folder list sorted, `last-backup` (if set) is the largest existing name -/
def Good (s : FSt) : Prop :=
  Sorted s.backups ∧ (∀ l, s.last = some l → l ∈ s.backups ∧ ∀ b ∈ s.backups, b ≤ l)

theorem sorted_iff_pairwise : ∀ l : List Nat, Sorted l ↔ l.Pairwise (· < ·)
  | [] => iff_of_true trivial .nil
  | [_] => iff_of_true trivial (List.pairwise_singleton ..)
  | x :: y :: rest => by rw [Sorted, sorted_iff_pairwise (y :: rest), pairwise_lt_cons_cons]

theorem insertSorted_of_lt (name : Nat) : ∀ l : List Nat, (∀ b ∈ l, b < name) → insertSorted name l = l ++ [name]
  | [], _ => rfl
  | y :: ys, h => by
    have hy : ¬ name ≤ y := Nat.not_le.2 (h y (List.mem_cons_self ..))
    have ih := insertSorted_of_lt name ys (fun b hb => h b (List.mem_cons_of_mem _ hb))
    rw [insertSorted, if_neg hy, ih, List.cons_append]

theorem takeBackup_backups_eq (keep : Nat) (s : FSt) (name : Nat) (hnew : ∀ b ∈ s.backups, b < name) :
    (takeBackup keep s name).backups = s.backups.drop (s.backups.length - keep) ++ [name] := by
  simp only [takeBackup, insertSorted_of_lt name s.backups hnew, List.length_append, List.length_singleton,
    Nat.add_sub_add_right]
  exact List.drop_append_of_le_length (Nat.sub_le ..)

/-- `last-backup` names the last successful attempt, whatever the names -/
theorem run_last (keep : Nat) : ∀ (attempts : List (Option Nat)) (s : FSt),
    (run keep s attempts).last = ((attempts.filterMap id).getLast?).or s.last
  | [], _ => rfl
  | none :: rest, s => run_last keep rest s
  | some n :: rest, s => by
    show (run keep (takeBackup keep s n) rest).last = ((n :: rest.filterMap id).getLast?).or s.last
    rw [run_last keep rest, List.getLast?_cons]
    cases (rest.filterMap id).getLast? <;> rfl

theorem takeBackup_newest (keep : Nat) (s : FSt) (name : Nat) (hs : Sorted s.backups) (hnew : ∀ b ∈ s.backups, b < name) :
    name ∈ (takeBackup keep s name).backups ∧ (takeBackup keep s name).last = some name ∧
    (takeBackup keep s name).backups.length ≤ keep + 1 ∧ Good (takeBackup keep s name) ∧
    (∀ b ∈ (takeBackup keep s name).backups, b = name ∨ b ∈ s.backups) := by
  have hb := takeBackup_backups_eq keep s name hnew
  have hmem : name ∈ (takeBackup keep s name).backups := hb ▸ List.mem_append_right _ (List.mem_singleton_self _)
  have hsub : ∀ b ∈ (takeBackup keep s name).backups, b = name ∨ b ∈ s.backups := fun b hbm =>
    (List.mem_append.1 (hb ▸ hbm)).elim (fun h => .inr (List.mem_of_mem_drop h)) fun h => .inl (List.mem_singleton.1 h)
  refine ⟨hmem, rfl, ?_, ⟨?_, ?_⟩, hsub⟩
  · rw [hb, List.length_append, List.length_drop]
    have hk (n : Nat) : n - (n - keep) ≤ keep := Nat.sub_le_iff_le_add'.2 (Nat.le_add_of_sub_le (Nat.le_refl _))
    exact Nat.succ_le_succ (hk _)
  · rw [hb, sorted_iff_pairwise, List.pairwise_append]
    exact ⟨((sorted_iff_pairwise _).1 hs).sublist (List.drop_sublist _ _), List.pairwise_singleton ..,
      fun a ha b hbm => List.mem_singleton.1 hbm ▸ hnew a (List.mem_of_mem_drop ha)⟩
  · rintro l ⟨⟩
    exact ⟨hmem, fun b hbm => (hsub b hbm).elim Nat.le_of_eq fun h => Nat.le_of_lt (hnew b h)⟩

/-- names strictly increasing along the successful attempts, and above everything that exists at the start -/
def Increasing : Nat → List (Option Nat) → Prop
  | _, [] => True
  | lo, some n :: rest => lo < n ∧ Increasing n rest
  | lo, none :: rest => Increasing lo rest

theorem run_good (keep : Nat) (s : FSt) (attempts : List (Option Nat)) (hg : Good s) (lo : Nat)
    (hlo : ∀ b ∈ s.backups, b ≤ lo) (hinc : Increasing lo attempts) :
    Good (run keep s attempts) ∧
    ((run keep s attempts).backups.length ≤ max s.backups.length (keep + 1)) ∧
    (∀ n, (attempts.filterMap id).getLast? = some n → (run keep s attempts).last = some n ∧ n ∈ (run keep s attempts).backups) := by
  -- `Good` says that what `last-backup` names exists: the last clause is `run_last`
  suffices h : Good (run keep s attempts) ∧ (run keep s attempts).backups.length ≤ max s.backups.length (keep + 1) from
    ⟨h.1, h.2, fun n hn => have e := (run_last keep attempts s).trans (by rw [hn]; rfl); ⟨e, (h.1.2 n e).1⟩⟩
  induction attempts generalizing s lo with
  | nil => exact ⟨hg, Nat.le_max_left _ _⟩
  | cons a rest ih =>
    cases a with
    | none => exact ih s hg lo hlo hinc
    | some m =>
      have hnew : ∀ b ∈ s.backups, b < m := fun b hb => Nat.lt_of_le_of_lt (hlo b hb) hinc.1
      obtain ⟨_, tlast, tlen, tgood, _⟩ := takeBackup_newest keep s m hg.1 hnew
      obtain ⟨ig, ilen⟩ := ih (takeBackup keep s m) tgood m (tgood.2 m tlast).2 hinc.2
      exact ⟨ig, Nat.le_trans ilen (Nat.le_trans (Nat.max_le.2 ⟨tlen, Nat.le_refl _⟩) (Nat.le_max_right _ _))⟩

/-- witness of defect 11: a new backup whose name sorts before an existing one is deleted by its own clean-up when
    `keep = 0`, and `last-backup` dangles -/
theorem unordered_names_lose_the_new_backup :
    ∃ (s : FSt) (name : Nat), Good s ∧ name ∉ (takeBackup 0 s name).backups ∧ (takeBackup 0 s name).last = some name := by
  refine ⟨{ backups := [5], last := some 5 }, 3, ⟨trivial, ?_⟩, by decide, rfl⟩
  rintro l ⟨⟩
  exact ⟨List.mem_singleton_self 5, fun b hb => Nat.le_of_eq (List.mem_singleton.1 hb)⟩

end Dos.BackupFolders
