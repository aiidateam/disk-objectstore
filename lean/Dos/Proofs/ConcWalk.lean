/-
The pack-writer programs respect the packer discipline action by action (`allowedAll`) from `ofSt s`, for writers that
never truncate (`nh = false`) and session ends that are allowed from `Imp.Mid` (`SessOk`).  The simulation of the I/O layer
with `fl = true` gives at each commit that the working copy lies in the flushed prefix of the packs; induction over `Emits`.
-/
import Dos.Proofs.ConcAux
import Dos.Proofs.IOImportProofs

namespace Dos.Conc
open Dos Dos.IO

def allowedAll (t : Tab) : XSt → List Act → Bool
  | _, [] => true
  | x, a :: as => pkAllowed t x a && allowedAll t (exec x a) as

/-- `plain` (`IOGood.lean`) serves here as "allowed in any state"; at `pkTruncate` both it and `pkAllowed` are `n == 0`,
    whence `exact ha` -/
theorem plain_allowed {t : Tab} (x : XSt) {a : Act} (ha : plain a = true) : pkAllowed t x a = true := by
  cases a <;> first | contradiction | exact ha

/-- what the next commit needs (`pkAllowed_commit`) -/
def RowsSub (x : XSt) : Prop := ∀ r ∈ x.rows, r ∈ workOf x

theorem rowsSub_of_work_none {x : XSt} (h : x.work = none) : RowsSub x := by
  intro r hr
  rw [workOf, h]; exact hr

/-- the actions that take rows out of the working copy or rewrite them (`sqlDelete`, `sqlMove`, `sqlRepoint`) are never
    allowed, so `RowsSub` is not lost along an allowed run -/
theorem rowsSub_allowed {t : Tab} {x : XSt} (h : RowsSub x) {a : Act} (ha : pkAllowed t x a = true) :
    RowsSub (exec x a) := by
  cases a with
  | sqlCommit => exact rowsSub_of_work_none rfl
  | sqlInsert r0 => exact fun r hr => mem_insertIgnore_of_mem r0 (h r hr)
  | pkOpen p => rw [exec_pkOpen]; exact h
  | looseUnlink | pkTruncate | mkdirLoose | pkWrite | pkFlush | pkFsync | pkClose | dirSync | readLoose | pkRead | lock
  | unlock => exact h
  | _ => contradiction

theorem rowsSub_execAll {t : Tab} (acts : List Act) : ∀ {x : XSt}, allowedAll t x acts = true → RowsSub x →
    RowsSub (execAll x acts) := by
  induction acts with
  | nil => exact fun _ h => h
  | cons a l ih =>
    intro x ha h
    obtain ⟨ha, hl⟩ := Bool.and_eq_true_iff.mp ha
    exact ih hl (rowsSub_allowed h ha)

theorem allowed_cons {t : Tab} {x : XSt} {a : Act} {l : List Act} (ha : pkAllowed t x a = true)
    (h : allowedAll t (exec x a) l = true) : allowedAll t x (a :: l) = true :=
  Bool.and_eq_true_iff.mpr ⟨ha, h⟩

theorem allowed_append {t : Tab} {l1 l2 : List Act} : ∀ {x : XSt}, allowedAll t x l1 = true →
    allowedAll t (execAll x l1) l2 = true → allowedAll t x (l1 ++ l2) = true := by
  induction l1 with
  | nil => exact fun _ h => h
  | cons a l ih =>
    intro x h1 h2
    obtain ⟨ha, hl⟩ := Bool.and_eq_true_iff.mp h1
    exact allowed_cons ha (ih hl h2)

theorem allowed_plain {t : Tab} (l : List Act) : ∀ {x : XSt}, (∀ a ∈ l, plain a = true) → allowedAll t x l = true := by
  induction l with
  | nil => exact fun _ => rfl
  | cons a l ih =>
    intro x hp
    exact allowed_cons (plain_allowed x (hp a List.mem_cons_self)) (ih fun b hb => hp b (List.mem_cons_of_mem _ hb))

theorem allowed_unlinks {t : Tab} (ks : List Nat) : ∀ {x : XSt}, (∀ k ∈ ks, k ∈ x.rows.map (·.key)) →
    allowedAll t x (ks.map .looseUnlink) = true := by
  induction ks with
  | nil => exact fun _ => rfl
  | cons k ks ih =>
    intro x hk
    exact allowed_cons (pkAllowed_unlink.mpr (hk k List.mem_cons_self))
      (ih (x := exec x (.looseUnlink k)) fun k' hk' => hk k' (List.mem_cons_of_mem _ hk'))

/-- between sessions (pack closed, hence flushed) the working copy may be committed -/
theorem allowed_commit {t : Tab} (wf : t.WF) {keep : List Nat} {x : XSt} {b : St} (i : Imp.Idle true t keep x b)
    (hsub : RowsSub x) : allowedAll t x [.sqlCommit] = true :=
  allowed_cons (pkAllowed_commit.mpr ⟨gc_fok wf i.wrk, hsub, i.wrk.keys_nodup⟩) rfl

theorem hfs_true {df : Bool} : true = false → df = true := nofun

def SessOk (t : Tab) (keep : List Nat) (e : Nat → List Row → List Act) : Prop :=
  ∀ {x : XSt} {b : St} {q : Nat} {rs : List Row}, Imp.Mid true t keep x b q rs → RowsSub x →
    allowedAll t x (e q rs) = true

/-- the commit comes after the close, so `allowed_commit` -/
theorem sessOk_sessionEndO {t : Tab} (wf : t.WF) (keep : List Nat) (df dc : Bool) :
    SessOk t keep (sessionEndO · · false df dc) := by
  intro x b q rs m hsub
  obtain ⟨_, i1⟩ := Imp.mid_endO m false df hfs_true
  have o1 : allowedAll t x (Imp.endO q rs false df) = true := allowed_plain _ (Imp.endO_plain q rs false df)
  show allowedAll t x (sessionEndO q rs false df dc) = true
  rw [Imp.sessionEndO_eq]
  split
  · exact allowed_append o1 (allowed_commit wf i1 (rowsSub_execAll _ o1 hsub))
  · rw [List.append_nil]; exact o1

/-- the unlinks are allowed: their rows were just committed -/
theorem sessOk_sessionEndCleanO {t : Tab} (wf : t.WF) (keep : List Nat) (cl df : Bool) :
    SessOk t keep (sessionEndCleanO · · cl df) := by
  intro x b q rs m hsub
  refine allowed_append (sessOk_sessionEndO wf keep df true m hsub) ?_
  split
  · rw [map_unlink_keys]
    exact allowed_unlinks _ fun k hk => (Imp.mid_end_committed m df hfs_true k hk).1
  · rfl

section walk
variable {t : Tab} {keep : List Nat} {cl : Bool} {x0 : XSt} {s0 : St} {e : Nat → List Row → List Act} {ks : List Nat}
  {w : WSt}

theorem allowed_emits (hE : SessOk t keep e) (he : Imp.Ends true t keep cl e) (i : Imp.Idle true t keep x0 s0)
    (hsub : RowsSub x0) (h : Emits t e false s0 ks w) : allowedAll t x0 w.acts = true := by
  induction h with
  | init => rfl
  | opn _ _ _ ih =>
    -- `plain`, by evaluation (here and below)
    exact allowed_append ih (allowed_plain _ (List.all_eq_true.mp rfl))
  | same _ _ ih => exact ih
  | ends hw hop ih =>
    -- the I/O layer's simulation says that we are inside a session
    obtain ⟨_, _, _, m⟩ := hw.sim he i
    rw [hop] at m
    exact allowed_append ih (hE m (rowsSub_execAll _ ih hsub))
  | write c z _ _ _ ih => exact allowed_append ih (allowed_plain _ (List.all_eq_true.mp rfl))
  | wtrunc _ _ hn => exact nomatch hn  -- only a writer with `no_holes` truncates back
  | read k _ ih => exact allowed_append ih (allowed_plain _ (List.all_eq_true.mp rfl))

theorem allowed_fin (hE : SessOk t keep e) (he : Imp.Ends true t keep cl e) (i : Imp.Idle true t keep x0 s0)
    (hsub : RowsSub x0) (h : Emits t e false s0 ks w) : allowedAll t x0 (finG e w) = true := by
  obtain ⟨w', h', _, ha, _⟩ := h.fin
  exact ha ▸ allowed_emits hE he i hsub h'

end walk

/-- the `false` is `no_holes` -/
theorem allowed_call {t : Tab} (wf : t.WF) {keep : List Nat} {x : XSt} {b : St} (i : Imp.Idle true t keep x b)
    (hsub : RowsSub x) (cs : List Nat) (z rt df dc : Bool) :
    allowedAll t x (callActs t b cs z false rt df dc).1 = true := by
  rw [callActs_eq]
  split
  · rfl
  · obtain ⟨ks, h⟩ := Emits.foldl_add (e := (sessionEndO · · false df dc)) (nh := false) (s0 := b) z rt cs Emits.init
    dsimp only  -- `(_, _).1`; left in the goal, `exact` unfolds `finG` before it reduces the projection
    exact allowed_fin (sessOk_sessionEndO wf keep df dc) (Imp.ends_sessionEndO false df dc hfs_true) i hsub h

theorem allowed_calls {t : Tab} (wf : t.WF) {keep : List Nat} (z rt df : Bool) (calls : List (List Nat)) :
    ∀ {x : XSt} {b : St}, Imp.Idle true t keep x b → RowsSub x →
      allowedAll t x (callsGo t z false rt df b calls) = true := by
  induction calls with
  | nil => exact fun _ _ => rfl
  | cons cs rest ih =>
    intro x b i hsub
    have o1 := allowed_call wf i hsub cs z rt df false
    obtain ⟨_, i1⟩ := Imp.call_step i cs z false rt df false hfs_true
    exact allowed_append o1 (ih i1 (rowsSub_execAll _ o1 hsub))

theorem allowed_addPackedO {t : Tab} (wf : t.WF) {s : St} (inv : Inv t s) (cs : List Nat) (z rt df : Bool) :
    allowedAll t (ofSt s) (actsAddPackedO t s cs z false rt df) = true :=
  allowed_call wf (Imp.idle_ofSt (fl := true) inv) (rowsSub_of_work_none rfl) cs z rt df true

theorem allowed_import {t : Tab} (wf : t.WF) {s : St} (inv : Inv t s) (calls : List (List Nat)) (z rt df : Bool) :
    allowedAll t (ofSt s) (actsImport t s calls z false rt df) = true := by
  have i0 : Imp.Idle true t (keysOf s) (ofSt s) s := Imp.idle_ofSt inv
  have o1 := allowed_calls wf z rt df calls i0 (rowsSub_of_work_none rfl)
  obtain ⟨_, i1⟩ := Imp.calls_step z false rt df hfs_true calls i0
  exact allowed_append o1 (allowed_commit wf i1 (rowsSub_execAll _ o1 (rowsSub_of_work_none rfl)))

theorem allowed_packAllO {t : Tab} (wf : t.WF) {s : St} (inv : Inv t s) (order : List Nat) (zs : List Bool)
    (cl df : Bool) : allowedAll t (ofSt s) (actsPackAllO t s order zs cl df) = true := by
  rw [actsPackAllO_eq]
  split
  · rfl
  · exact allowed_fin (sessOk_sessionEndCleanO wf (keysOf s) cl df) (Imp.ends_sessionEndCleanO cl df hfs_true)
      (Imp.idle_ofSt inv) (rowsSub_of_work_none rfl)
      (Emits.foldl_pack (t := t) (nh := false) (s0 := s) (order.zip zs) Emits.init)

theorem allowed_packAll {t : Tab} (wf : t.WF) {s : St} (inv : Inv t s) (order : List Nat) (zs : List Bool) (cl : Bool) :
    allowedAll t (ofSt s) (actsPackAll t s order zs cl) = true := by
  rw [← actsPackAllO_fsync]; exact allowed_packAllO wf inv order zs cl true

theorem allowed_clean {t : Tab} (s : St) (order : List Nat) (ho : ∀ k ∈ order, hasRow s k = true) :
    allowedAll t (ofSt s) (actsClean s order) = true :=
  allowed_unlinks order (x := ofSt s) fun k hk => hasRow_iff.mp (ho k hk)

end Dos.Conc
