/-
C02, one step: after every operation the container has exactly the keys the specification `specHas` says.
-/
import Dos.Proofs.Session
import Dos.Proofs.InvRepack

namespace Dos

@[simp] theorem loose_writeAll (t : Tab) (s : St) (l : List (Nat × Bool)) : (writeAll t s l).loose = s.loose :=
  (Session.of_writeAll (nh := false) l s nofun).loose

theorem hasLoose_writeAll (t : Tab) (s : St) (l : List (Nat × Bool)) (k : Nat) :
    hasLoose (writeAll t s l) k = hasLoose s k := hasLoose_congr (loose_writeAll t s l) k

theorem hasRow_writeAll (t : Tab) (s : St) (l : List (Nat × Bool)) (k : Nat) :
    hasRow (writeAll t s l) k = (hasRow s k || (l.map (·.1)).contains k) :=
  (Session.of_writeAll (nh := false) l s nofun).hasRow_eq k

theorem hasRow_addLoose (s : St) (c k : Nat) : hasRow (addLoose s c) k = hasRow s k := by
  rcases addLoose_cases s c with ⟨_, e⟩ | ⟨_, e⟩ | ⟨_, e⟩ <;> rw [e] <;> rfl

theorem hasLoose_addLoose (s : St) (c k : Nat) : hasLoose (addLoose s c) k = (hasLoose s k || k == c) := by
  have absorb : c ∈ s.loose.map (·.1) → hasLoose s k = (hasLoose s k || k == c) :=
    fun hm => (or_beq_absorb (hasLoose_iff.mpr hm) k).symm
  rcases addLoose_cases s c with ⟨hf, e⟩ | ⟨hm, e⟩ | ⟨_, e⟩ <;> rw [e]
  · exact absorb (List.mem_map.mpr ⟨_, findLoose_some hf, rfl⟩)
  · rw [← absorb hm]
    simp only [hasLoose, looseKeys, keys_map_fix]
  · simp only [hasLoose, looseKeys, List.map_append, List.map_cons, List.map_nil, List.contains_append,
      List.contains_cons, List.contains_nil, Bool.or_false]

theorem has_addLoose (s : St) (c k : Nat) : has (addLoose s c) k = (has s k || k == c) := by
  simp only [has, hasRow_addLoose, hasLoose_addLoose, Bool.or_assoc]

theorem has_addPacked (t : Tab) (s : St) (cs : List Nat) (z nh : Bool) (k : Nat) :
    has (addPacked t s cs z nh) k = (has s k || cs.contains k) := by
  rw [(Session.of_addPacked t s cs z nh).has_eq, map_fst_map_pair]

theorem hasLoose_removeLoose (s : St) (ks : List Nat) (k : Nat) :
    hasLoose (removeLoose s ks) k = (hasLoose s k && !ks.contains k) :=
  contains_map_filter (fun e : Nat × Nat => e.1) (fun k => !ks.contains k) s.loose k

theorem has_packAll {t : Tab} {s s' : St} {m : Mode} {order : List Nat} {zs : List Bool} {cl : Bool}
    (h : packAll t s m order zs cl = some s') (k : Nat) : has s' k = has s k := by
  obtain ⟨⟨_, hperm⟩, hlen, _⟩ := packAll_eq_some.mp h
  obtain ⟨s1, hw, rfl⟩ := packAll_session h
  -- the keys packed are loose and not indexed: they gain a row and (with `cl`) lose the loose file
  have hmem : order.contains k = (hasLoose s k && !hasRow s k) :=
    (contains_of_isPerm hperm k).trans (contains_filter ..)
  have hr : hasRow s1 k = (hasRow s k || (hasLoose s k && !hasRow s k)) := by
    rw [hw.hasRow_eq, List.map_fst_zip (Nat.le_of_eq hlen.symm), hmem]
  rw [has, hasLoose_removeLoose, hw.hasLoose_eq, has]
  show (hasRow s1 k || _) = _
  rw [hr]
  cases cl
  · cases hasRow s k <;> cases hasLoose s k <;> rfl
  · rw [gone, if_pos rfl, hmem]
    cases hasRow s k <;> cases hasLoose s k <;> rfl

theorem has_clean (s : St) (k : Nat) : has (clean s) k = has s k := by
  have hl : hasLoose (clean s) k = (hasLoose s k && !hasRow s k) :=
    contains_map_filter (fun e : Nat × Nat => e.1) (fun k => !hasRow s k) s.loose k
  rw [has, hl, has]
  show (hasRow s k || _) = _
  cases hasRow s k <;> cases hasLoose s k <;> rfl

theorem has_delete (s : St) (ks : List Nat) (k : Nat) : has (delete s ks).1 k = (has s k && !ks.contains k) := by
  have hl : hasLoose (delete s ks).1 k = (hasLoose s k && !ks.contains k) := hasLoose_removeLoose s ks k
  have hr : hasRow (delete s ks).1 k = (hasRow s k && !ks.contains k) :=
    contains_map_filter (fun r : Row => r.key) (fun k => !ks.contains k) s.rows k
  rw [has, hr, hl, has]
  cases hasRow s k <;> cases hasLoose s k <;> cases ks.contains k <;> rfl

theorem repackPack_keys_loose {t : Tab} {s s' : St} {m : Mode} {p : Nat} {order : List Nat} {zs : List Bool}
    (h : repackPack t s m p order zs = some s') :
    s'.rows.map (·.key) = s.rows.map (·.key) ∧ s'.loose = s.loose := by
  rcases repackPack_eq_some.mp h with ⟨_, _, rfl⟩ | ⟨_, _, _, _, rfl⟩
  · exact ⟨rfl, rfl⟩
  · exact ⟨movedRows_keys t s p p zs, rfl⟩

theorem has_repackAll {t : Tab} {m : Mode} {plan : List (Nat × List Nat × List Bool)} {s s' : St}
    (h : repackAll t m s plan = some s') (k : Nat) : has s' k = has s k := by
  induction plan generalizing s with
  | nil => rw [repackAll_nil_eq_some.mp h]
  | cons e rest ih =>
    obtain ⟨s1, h1, h⟩ := repackAll_cons_eq_some.mp h
    obtain ⟨hk, hl⟩ := repackPack_keys_loose h1
    rw [ih h]
    simp only [has, hasRow_congr hk, hasLoose_congr hl]

theorem has_loosen {t : Tab} (wf : t.WF) {s s' : St} (inv : Inv t s) {k0 : Nat} (h : loosen t s k0 = some s')
    (k : Nat) : has s' k = has s k := by
  rcases loosen_eq_some.mp h with ⟨_, rfl⟩ | ⟨_, c, hc, rfl⟩
  · rfl
  · -- only a key the container has can be read, and it reads as itself
    cases hh : has s k0 with
    | false => rw [getc_none_of_not_has hh] at hc; cases hc
    | true =>
      rw [getc_of_has wf inv hh] at hc
      cases hc
      rw [has_addLoose, or_beq_absorb hh]

theorem has_importObjs {t : Tab} {s s' : St} {w o : List Nat} {z same tr : Bool}
    (h : importObjs t s w o z same tr = some s') (k : Nat) : has s' k = (has s k || w.contains k) := by
  obtain ⟨hperm, hw⟩ := importObjs_session h
  rw [hw.has_eq, map_fst_map_pair, contains_of_isPerm hperm, importNeeded]
  cases same
  · simp only [Bool.false_eq_true, if_false, contains_filter, has]
    cases hasRow s k <;> cases hasLoose s k <;> cases w.contains k <;> rfl
  · simp only [if_true, contains_filter, has]
    cases hasRow s k <;> cases hasLoose s k <;> cases w.contains k <;> rfl

theorem has_step {t : Tab} (wf : t.WF) {s s' : St} (inv : Inv t s) {op : Op} (h : step t s op = some s') (k : Nat) :
    has s' k = specHas (has s) op k := by
  cases op with
  | addLoose c => exact Option.some.inj h ▸ has_addLoose s c k
  | addPacked cs z nh => exact Option.some.inj h ▸ has_addPacked t s cs z nh k
  | packAll m order zs cl => exact has_packAll h k
  | clean => exact Option.some.inj h ▸ has_clean s k
  | delete ks => exact Option.some.inj h ▸ has_delete s ks k
  | repack m plan => exact has_repackAll h k
  | loosen k0 => exact has_loosen wf inv h k
  | reopen => exact Option.some.inj h ▸ rfl
  | importObjs w o z same tr => exact has_importObjs h k

end Dos
