import Dos.Proofs.IOGood

namespace Dos.IO.Basic

/-- `kR`: keys that must stay indexed, `kL`: keys that must stay loose -/
structure Good (s : St) (kR kL : List Nat) (x : XSt) : Prop where
  packs : x.packs = (ofSt s).packs
  rows : x.rows.Sublist s.rows
  work : (workOf x).Sublist s.rows
  loose_ok : ∀ e ∈ x.loose, e.2.cid = e.1 ∧ e.2.dur = .synced
  loose_nodup : (x.loose.map (·.1)).Nodup
  locks : x.locks = []
  target : x.target = s.target
  keepR : ∀ k ∈ kR, k ∈ x.rows.map (·.key) ∧ k ∈ (workOf x).map (·.key)
  keepL : ∀ k ∈ kL, k ∈ x.loose.map (·.1)

/-- Side condition under which one action keeps `Good`.  The clause for `renameLoose` is the safety argument for
    `add_object`: what is renamed into place is complete, fsynced and named after its content (`ObjectWriter.__exit__`
    calls `safe_flush_to_disk` and takes the name from the digest before it renames). -/
def OKAct (kR kL : List Nat) (x : XSt) : Act → Prop
  | .sbCreate | .sbWrite _ | .sbFlush | .sbFsync | .sbClose | .sbRemove | .dirSync | .mkdirLoose _
  | .readLoose _ | .sqlCommit => True
  | .renameLoose k => x.sandbox = none ∨ x.sandbox = some ⟨k, .synced⟩
  | .looseUnlink k => k ∉ kL
  | .sqlDelete k => k ∉ kR
  | _ => False

def StepsOK (kR kL : List Nat) : XSt → List Act → Prop
  | _, [] => True
  | x, a :: as => OKAct kR kL x a ∧ StepsOK kR kL (exec x a) as

theorem stepsOK_append {kR kL : List Nat} {x : XSt} {a b : List Act} (ha : StepsOK kR kL x a)
    (hb : StepsOK kR kL (execAll x a) b) : StepsOK kR kL x (a ++ b) := by
  induction a generalizing x with
  | nil => exact hb
  | cons c cs ih => exact ⟨ha.1, ih ha.2 hb⟩

section
variable {t : Tab} {s : St} {kR kL : List Nat} {x : XSt}

theorem good_ofSt (inv : Inv t s) (hR : ∀ k ∈ kR, k ∈ rowKeys s) (hL : ∀ k ∈ kL, k ∈ looseKeys s) :
    Good s kR kL (ofSt s) :=
  have g := (Imp.gw_ofSt (fl := false) inv).com
  { packs := rfl
    rows := .refl _
    work := .refl _
    loose_ok := g.loose_ok
    loose_nodup := g.loose_nodup
    locks := rfl
    target := rfl
    keepR := fun k hk => ⟨hR k hk, hR k hk⟩
    keepL := fun k hk => looseKeys_ofSt s ▸ hL k hk }

theorem good_exec (h : Good s kR kL x) {a : Act} (ha : OKAct kR kL x a) : Good s kR kL (exec x a) := by
  have sb : ∀ o, Good s kR kL { x with sandbox := o } := fun _ => { h with }
  cases a with
  | sbCreate | sbWrite _ | sbFlush | sbFsync | sbClose | sbRemove => exact sb _
  | dirSync | mkdirLoose _ | readLoose _ => exact h
  | renameLoose k =>
    rw [exec_eq]
    rcases ha with h0 | h0 <;> rw [h0]
    · exact sb none
    · exact { h with
        loose_ok := forall_replace h.loose_ok ⟨rfl, rfl⟩
        loose_nodup := nodup_replace k _ h.loose_nodup
        keepL := fun k' hk' => keys_replace (h.keepL k' hk') }
  | looseUnlink k =>
    exact { h with
      loose_ok := fun e he => h.loose_ok e (List.mem_filter.mp he).1
      loose_nodup := h.loose_nodup.sublist (List.filter_sublist.map _)
      keepL := fun k' hk' => mem_map_filter_ne (h.keepL k' hk') fun e => ha (e ▸ hk') }
  | sqlDelete k =>
    exact { h with
      work := List.filter_sublist.trans h.work
      keepR := fun k' hk' =>
        ⟨(h.keepR k' hk').1, mem_map_filter_ne (f := Row.key) (h.keepR k' hk').2 fun e => ha (e ▸ hk')⟩ }
  | sqlCommit =>
    exact { h with rows := h.work, work := h.work, keepR := fun k hk => ⟨(h.keepR k hk).2, (h.keepR k hk).2⟩ }
  | _ => exact ha.elim

theorem stepsOK_static {acts : List Act} (h : ∀ a ∈ acts, ∀ x, OKAct kR kL x a) (x : XSt) :
    StepsOK kR kL x acts := by
  induction acts generalizing x with
  | nil => trivial
  | cons c cs ih => exact ⟨h c List.mem_cons_self x, ih (fun a ha => h a (List.mem_cons_of_mem _ ha)) _⟩

theorem good_take {acts : List Act} (h : Good s kR kL x) (hs : StepsOK kR kL x acts) : AllP (Good s kR kL) x acts := by
  induction acts generalizing x with
  | nil => exact allP_nil h
  | cons a as ih => exact allP_cons h (ih (good_exec h hs.1) hs.2)

theorem Good.gc {keep : List Nat} (h : Good s kR kL x) (inv : Inv t s) (hk : ∀ k ∈ keep, k ∈ kR ∨ k ∈ kL) :
    Imp.GC false t keep x.packs x.rows x.loose := by
  have g0 := (Imp.gw_ofSt (fl := false) inv).com
  exact {
    pk_nodup := h.packs ▸ g0.pk_nodup
    pk_le := h.packs ▸ g0.pk_le
    rows_ok := fun r hr => h.packs ▸ g0.rows_ok r (h.rows.subset hr)
    keys_nodup := inv.keys_nodup.sublist (h.rows.map _)
    ids_nodup := inv.ids_nodup.sublist (h.rows.map _)
    ids_pos := fun r1 h1 r2 h2 => inv.ids_pos r1 (h.rows.subset h1) r2 (h.rows.subset h2)
    loose_nodup := h.loose_nodup
    loose_ok := h.loose_ok
    keep_ok := fun k hk' => (hk k hk').imp (fun h1 => (h.keepR k h1).1) (h.keepL k) }

theorem allSafe_of (wf : t.WF) (inv : Inv t s) {keep : List Nat} {acts : List Act}
    (hR : ∀ k ∈ kR, k ∈ rowKeys s) (hL : ∀ k ∈ kL, k ∈ looseKeys s)
    (hk : ∀ k ∈ keep, k ∈ kR ∨ k ∈ kL) (hs : StepsOK kR kL (ofSt s) acts) : AllSafe t s acts keep :=
  allSafe_of_allP (P := Good s kR kL) (fun _ g =>
      have c := Imp.gc_safe wf (g.gc inv hk) (g.target ▸ inv.target_pos)
      ⟨c.1, Imp.gc_power wf (g.gc inv hk), c.2⟩) (good_take (good_ofSt inv hR hL) hs)

end

theorem exec_sandbox_prefix (x : XSt) (c : Nat) (mk : Bool) :
    execAll x ([.sbCreate, .sbWrite c, .sbFlush, .sbFsync, .dirSync, .sbClose] ++ (if mk then [.mkdirLoose c] else [])) =
      { x with sandbox := some ⟨c, .synced⟩ } := by
  have h : ∀ y : XSt, execAll y (if mk then [.mkdirLoose c] else []) = y := fun _ => by cases mk <;> rfl
  simp only [execAll_append, h, execAll, exec_eq]
  rfl

theorem exec_addLoose {t : Tab} {s : St} (inv : Inv t s) (c : Nat) (mk : Bool) :
    execAll (ofSt s) (actsAddLoose s c mk) = ofSt (addLoose s c) := by
  unfold actsAddLoose addLoose
  rw [execAll_append, exec_sandbox_prefix]
  cases hf : findLoose s.loose c with
  | some c' =>
    obtain rfl : c = c' := inv.loose_ok _ (findLoose_some hf)
    simp only [if_true]
    rfl
  | none =>
    -- no loose file is named `c`, so the rename replaces none
    have hn : (ofSt s).loose.filter (fun e => e.1 != c) = (ofSt s).loose :=
      List.filter_eq_self.mpr fun e he => bne_iff_ne.mpr fun h =>
        findLoose_none_iff.mp hf (looseKeys_ofSt s ▸ h ▸ List.mem_map_of_mem he)
    show ({ ofSt s with loose := (ofSt s).loose.filter (fun e => e.1 != c) ++ [(c, ⟨c, .synced⟩)] } : XSt) =
      ofSt { s with loose := s.loose ++ [(c, c)] }
    rw [hn]
    simp only [ofSt, List.map_append, List.map_cons, List.map_nil]

theorem done_addLoose {t : Tab} {s : St} (inv : Inv t s) (c : Nat) (mk : Bool) :
    SameDisk (toSt (execAll (ofSt s) (actsAddLoose s c mk))) (addLoose s c) := by
  rw [exec_addLoose inv, toSt_ofSt]
  exact ⟨rfl, rfl, fun _ => Iff.rfl, rfl⟩

theorem safe_addLoose {t : Tab} (wf : t.WF) {s : St} (inv : Inv t s) (hb : Bounded s) (c : Nat) (hc : c < garbage)
    (mk : Bool) : AllSafe t s (actsAddLoose s c mk) (keysOf s) := by
  have _ := hb
  have _ := hc
  refine allSafe_of wf inv (kR := rowKeys s) (kL := looseKeys s) (fun _ h => h) (fun _ h => h)
    (fun k hk => List.mem_append.mp hk) ?_
  unfold actsAddLoose
  refine stepsOK_append (stepsOK_append ⟨trivial, trivial, trivial, trivial, trivial, trivial, trivial⟩ ?_) ?_
  · cases mk
    · trivial
    · exact ⟨trivial, trivial⟩
  · rw [exec_sandbox_prefix]
    cases hf : findLoose s.loose c with
    | some c' =>
      obtain rfl : c = c' := inv.loose_ok _ (findLoose_some hf)
      simp only [if_true]
      exact ⟨trivial, trivial, trivial⟩
    | none => exact ⟨Or.inr rfl, trivial, trivial⟩

theorem exec_unlinks (s : St) (l : List Nat) : execAll (ofSt s) (l.map .looseUnlink) = ofSt (removeLoose s l) :=
  (execAll_unlinks _ l).trans (congrArg (fun L => ({ ofSt s with loose := L } : XSt)) List.filter_map)

/-- `clean_storage` unlinks loose files of indexed keys (`order` = any enumeration of them) -/
theorem done_clean {t : Tab} {s : St} (inv : Inv t s) (order : List Nat)
    (ho : ∀ k, k ∈ order ↔ (hasLoose s k = true ∧ hasRow s k = true)) :
    SameDisk (toSt (execAll (ofSt s) (actsClean s order))) (clean s) := by
  have _ := inv
  rw [actsClean, exec_unlinks, toSt_ofSt]
  refine ⟨rfl, rfl, fun e => ?_, rfl⟩
  simp only [removeLoose, clean, List.mem_filter]
  refine and_congr_right fun he => ?_
  have hl : hasLoose s e.1 = true := hasLoose_iff.mpr (List.mem_map_of_mem he)
  simp [ho e.1, hl]

theorem safe_clean {t : Tab} (wf : t.WF) {s : St} (inv : Inv t s) (hb : Bounded s) (order : List Nat)
    (ho : ∀ k ∈ order, hasRow s k = true) : AllSafe t s (actsClean s order) (keysOf s) := by
  have _ := hb
  apply allSafe_of wf inv (kR := rowKeys s) (kL := (looseKeys s).filter (fun k => !hasRow s k)) (fun _ h => h)
    (fun _ h => (List.mem_filter.mp h).1)
  · intro k hk
    by_cases hr : hasRow s k = true
    · exact Or.inl (hasRow_iff.mp hr)
    · exact (List.mem_append.mp hk).imp_right fun hk => List.mem_filter.mpr ⟨hk, by simpa using hr⟩
  · apply stepsOK_static
    intro a ha x
    obtain ⟨k, hk, rfl⟩ := List.mem_map.mp ha
    exact fun hm => by simpa [ho k hk] using (List.mem_filter.mp hm).2

theorem toSt_sqlDeletes_commit (x : XSt) (l : List Nat) :
    toSt (execAll x (l.map .sqlDelete ++ [.sqlCommit])) =
      { toSt x with rows := (workOf x).filter (fun r => !l.contains r.key) } := by
  induction l generalizing x with
  | nil => exact congrArg (fun R => ({ toSt x with rows := R } : St)) (List.filter_eq_self.mpr fun _ _ => rfl).symm
  | cons a l ih =>
    exact (ih _).trans (congrArg (fun R => ({ toSt x with rows := R } : St)) (filter_ne_contains Row.key a l (workOf x)))

theorem done_delete {t : Tab} {s : St} (inv : Inv t s) (ks : List Nat) :
    SameDisk (toSt (execAll (ofSt s) (actsDelete s ks))) (delete s ks).1 := by
  have _ := inv
  unfold actsDelete
  rw [List.append_assoc, execAll_append, exec_unlinks, toSt_sqlDeletes_commit, toSt_ofSt]
  -- a key that has a loose file (a row) is in the list of those unlinked (deleted) iff it is in `ks`
  refine ⟨rfl, List.filter_congr fun r hr => ?_, fun e => ?_, rfl⟩
  · have hr : hasRow s r.key = true := hasRow_iff.mpr (List.mem_map_of_mem hr)
    simp [List.mem_eraseDups, hr]
  · simp only [removeLoose, delete, List.mem_filter]
    refine and_congr_right fun he => ?_
    have hl : hasLoose s e.1 = true := hasLoose_iff.mpr (List.mem_map_of_mem he)
    simp [List.mem_eraseDups, hl]

theorem safe_delete {t : Tab} (wf : t.WF) {s : St} (inv : Inv t s) (hb : Bounded s) (ks : List Nat) :
    AllSafe t s (actsDelete s ks) ((keysOf s).filter (fun k => !ks.contains k)) := by
  have _ := hb
  apply allSafe_of wf inv (kR := (rowKeys s).filter (fun k => !ks.contains k))
    (kL := (looseKeys s).filter (fun k => !ks.contains k))
    (fun _ h => (List.mem_filter.mp h).1) (fun _ h => (List.mem_filter.mp h).1)
  · intro k hk
    rw [keysOf, List.filter_append] at hk
    exact List.mem_append.mp hk
  · apply stepsOK_static
    intro a ha x
    -- an unlinked or deleted key is in `ks`, hence not among those kept
    have hks : ∀ {p : Nat → Bool} {k : Nat} {K : List Nat}, k ∈ (ks.filter p).eraseDups →
        k ∉ K.filter (fun k => !ks.contains k) := fun hk hm => by
      simpa [(List.mem_filter.mp (List.mem_eraseDups.mp hk)).1] using (List.mem_filter.mp hm).2
    rcases List.mem_append.mp ha with ha | ha
    · rcases List.mem_append.mp ha with ha | ha <;> obtain ⟨k, hk, rfl⟩ := List.mem_map.mp ha <;> exact hks hk
    · rw [List.mem_singleton.mp ha]; trivial

end Dos.IO.Basic
