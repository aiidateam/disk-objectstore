/-
Deduplication (C09) at Level B.
-/
import Dos.Proofs.Step

namespace Dos

/-- `(totals t s).sizePackfiles`: the `total_size_packfiles_on_disk` of `get_total_size` -/
def packBytes (t : Tab) (s : St) : Nat := sumBy (fun p => segsLen t p.2) s.packs
/-- `(totals t s).sizePackedOnDisk`: its `total_size_packed_on_disk` -/
def refBytes (s : St) : Nat := sumBy (·.len) s.rows

theorem sumBy_append {α} (f : α → Nat) (a b : List α) : sumBy f (a ++ b) = sumBy f a + sumBy f b := by
  induction a with
  | nil => exact (Nat.zero_add _).symm
  | cons x xs ih => rw [List.cons_append, sumBy, sumBy, ih, Nat.add_assoc]

/-- `setPack` replaces the first occurrence, which is the one `getPack` reads -/
theorem sumBy_setPack_append (t : Tab) (ps : Packs) (p : Nat) (ext : List Seg) :
    sumBy (fun q => segsLen t q.2) (setPack ps p ((getPack ps p).getD [] ++ ext)) =
      sumBy (fun q => segsLen t q.2) ps + segsLen t ext := by
  induction ps with
  | nil => exact Nat.add_comm ..
  | cons e rest ih =>
    obtain ⟨q, gs⟩ := e
    by_cases h : q = p
    · simp only [setPack, getPack, if_pos h, sumBy, Option.getD_some, segsLen_append]
      ac_rfl
    · simp only [setPack, getPack, if_neg h, sumBy, ih, Nat.add_assoc]

/-- from `s` to `s'` the pack files grew by exactly the stored lengths the index gained (stated without subtraction) -/
def Bal (t : Tab) (s s' : St) : Prop := packBytes t s' + refBytes s = packBytes t s + refBytes s'

theorem Bal.refl (t : Tab) (s : St) : Bal t s s := rfl

theorem Bal.trans {t : Tab} {a b c : St} (h1 : Bal t a b) (h2 : Bal t b c) : Bal t a c := by
  unfold Bal at *
  omega

theorem packBytes_ensurePack (t : Tab) (ps : Packs) (p : Nat) :
    sumBy (fun q => segsLen t q.2) (ensurePack ps p) = sumBy (fun q => segsLen t q.2) ps := by
  rw [ensurePack_eq, sumBy_setPack_append]; rfl

theorem bal_openCur (t : Tab) (s : St) : Bal t s (openCur t s) := by
  unfold Bal packBytes refBytes openCur
  simp only [packBytes_ensurePack]

theorem bal_writeObj_new (t : Tab) (s : St) (c : Nat) (z : Bool) (h : hasRow s c = false) :
    Bal t s (writeObj t s c z) := by
  rcases rows_writeObj t s c z with ⟨h', _⟩ | ⟨_, r, e, _, _, hl⟩
  · rw [h] at h'; cases h'
  · -- the pack grows by the segment, the index by a row of the segment's length
    unfold Bal packBytes refBytes
    rw [e, sumBy_append, sumBy, sumBy, hl]
    show sumBy _ (setPack ..) + _ = _
    rw [sumBy_setPack_append, segsLen_cons]
    ac_rfl

theorem Session.bal {t : Tab} {s s' : St} {l : List (Nat × Bool)} (h : Session t true s l s') : Bal t s s' := by
  induction h with
  | done => exact Bal.refl ..
  | cur _ ih | skip _ _ ih => exact ih
  | opn _ ih => exact (bal_openCur ..).trans ih
  | wrt hf _ ih => exact (bal_writeObj_new _ _ _ _ (hf rfl)).trans ih

theorem PExt.of_false {a b : Packs} (h : PExt (fun _ => False) a b) :
    (∀ p segs, getPack a p = some segs → getPack b p = some segs) ∧
    (∀ p segs, getPack b p = some segs → getPack a p = some segs ∨ segs = []) := by
  have nil : ∀ {ext : List Seg}, (∀ g ∈ ext, False) → ext = [] := fun h => List.eq_nil_iff_forall_not_mem.mpr h
  constructor
  · intro p segs hg
    obtain ⟨ext, e, hx⟩ := h.of_some hg
    rw [e, nil hx, List.append_nil]
  · intro p segs hg'
    cases hg : getPack a p with
    | none => exact Or.inr (nil (h.of_none hg hg'))
    | some segs0 =>
      obtain ⟨ext, e, hx⟩ := h.of_some hg
      rw [e, nil hx, List.append_nil] at hg'
      exact Or.inl hg'

theorem one_row_per_key {t : Tab} {s : St} (inv : Inv t s) (k : Nat) : (s.rows.filter (fun r => r.key == k)).length ≤ 1 :=
  filter_key_length_le_one Row.key k s.rows inv.keys_nodup

theorem one_loose_per_key {t : Tab} {s : St} (inv : Inv t s) (k : Nat) : (s.loose.filter (fun e => e.1 == k)).length ≤ 1 :=
  filter_key_length_le_one Prod.fst k s.loose inv.loose_nodup

theorem listAll_spec (s : St) : (listAll s).Nodup ∧ ∀ k, k ∈ listAll s ↔ has s k = true := by
  refine ⟨eraseDups_nodup _, ?_⟩
  intro k
  unfold listAll dedup
  rw [List.mem_eraseDups, List.mem_append]
  simp only [has, Bool.or_eq_true, hasRow_iff, hasLoose_iff, rowKeys, looseKeys]

/-- re-adding a content whose loose copy was damaged leaves a correct copy in place
    (no invariant assumed about the loose files) -/
theorem addLoose_repairs (s : St) (c : Nat) : findLoose (addLoose s c).loose c = some c := by
  rcases addLoose_cases s c with ⟨hf, e⟩ | ⟨hm, e⟩ | ⟨hn, e⟩ <;> rw [e]
  · exact hf
  · -- the file is there, and every file of that name now holds `c`
    cases hf : findLoose (s.loose.map fun e => if e.1 = c then (c, c) else e) c with
    | none => exact absurd ((keys_map_fix s.loose c).symm ▸ hm) (findLoose_none_iff.mp hf)
    | some c' =>
      obtain ⟨e, _, he⟩ := List.mem_map.mp (findLoose_some hf)
      split at he
      · exact congrArg some (Prod.mk.inj he).2.symm
      · next hne => exact absurd (congrArg Prod.fst he) hne
  · have hf := findLoose_none_iff.mpr hn
    unfold findLoose at hf ⊢
    rw [Option.map_eq_none_iff] at hf
    simp only [List.find?_append, hf, Option.none_or, List.find?_singleton, beq_self_eq_true, if_true, Option.map_some]

theorem addLoose_known {t : Tab} {s : St} (inv : Inv t s) {c : Nat} (h : hasLoose s c = true) : addLoose s c = s := by
  unfold addLoose
  cases hf : findLoose s.loose c with
  | none => exact absurd (hasLoose_iff.mp h) (findLoose_none_iff.mp hf)
  | some c' =>
    have hc : c = c' := inv.loose_ok _ (findLoose_some hf)
    exact if_pos hc.symm

/-- with `no_holes` a direct-to-pack call leaves no unreferenced bytes behind: the packs grow by exactly the stored length of
    the newly indexed objects -/
theorem addPacked_noHoles_no_junk {t : Tab} {s : St} (inv : Inv t s) (cs : List Nat) (z : Bool) :
    packBytes t (addPacked t s cs z true) + refBytes s = packBytes t s + refBytes (addPacked t s cs z true) :=
  have _ := inv
  (Session.of_addPacked t s cs z true).bal

/-- with `no_holes`, content that is indexed already grows no pack and adds no row (an empty pack may be created) -/
theorem addPacked_noHoles_known {t : Tab} {s : St} (inv : Inv t s) (cs : List Nat) (z : Bool)
    (hk : ∀ c ∈ cs, hasRow s c = true) :
    (addPacked t s cs z true).rows = s.rows ∧
    (∀ p segs, getPack s.packs p = some segs → getPack (addPacked t s cs z true).packs p = some segs) ∧
    (∀ p segs, getPack (addPacked t s cs z true).packs p = some segs → getPack s.packs p = some segs ∨ segs = []) := by
  have _ := inv
  have hw := Session.of_addPacked t s cs z true
  -- whatever is offered is indexed, and what is indexed is neither written nor given a row
  have no : ∀ c z', (c, z') ∈ cs.map (·, z) → hasRow s c = false → False := by
    intro c z' hm hf
    rw [hk c (mem_map_pair.mp hm).1] at hf
    cases hf
  obtain ⟨new, e, hnew⟩ := hw.rows
  have : new = [] := List.eq_nil_iff_forall_not_mem.mpr fun r hr => no _ _ (hnew r hr).1 (hnew r hr).2
  rw [this, List.append_nil] at e
  exact ⟨e, (hw.pext.mono fun g hg => no _ _ hg.1 (hg.2 rfl)).of_false⟩

theorem addPacked_rows_kept {t : Tab} {s : St} (cs : List Nat) (z nh : Bool) :
    ∀ r ∈ s.rows, r ∈ (addPacked t s cs z nh).rows :=
  (Session.of_addPacked t s cs z nh).rows_kept

end Dos
