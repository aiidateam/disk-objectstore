import Dos.Proofs.IOLib

namespace Dos.IO
open Repack (full)

theorem segOK_of_take {t : Tab} {segs : List Seg} {r : Row} {n : Nat} (hr : SegOK t (segs.take n) r) :
    SegOK t segs r :=
  segOK_prefix (List.take_prefix n segs) hr

namespace Imp

/-- The watermark of a pack file, up to which the rows of the index must lie in it.  `fl = false`: the synced prefix,
    safe against a power loss as well; `fl = true`: the flushed prefix, enough for a process kill and a single fault,
    and all that a writer with `do_fsync=False` keeps. -/
def wm (fl : Bool) (pk : XPack) : Nat := if fl then pk.flushed else pk.synced

theorem wm_le {fl : Bool} {pk : XPack} (h : pk.synced ≤ pk.flushed) : wm fl pk ≤ pk.flushed := by
  cases fl
  · exact h
  · exact Nat.le_refl _

theorem wm_mono {fl : Bool} {pk pk' : XPack} (h1 : pk.synced ≤ pk'.synced) (h2 : pk.flushed ≤ pk'.flushed) :
    wm fl pk ≤ wm fl pk' := by
  cases fl
  · exact h1
  · exact h2

theorem wm_full (fl : Bool) (segs : List Seg) : wm fl (full segs) = segs.length := by
  cases fl <;> rfl

/-- What `Inv` says, with every row below the watermark of its pack file.  `rows` is an argument of its own: the invariant
    is needed of the committed index `x.rows` and of the working copy `workOf x` of an open transaction (which may be
    committed at any time). -/
structure GC (fl : Bool) (t : Tab) (keep : List Nat) (packs : List (Nat × XPack)) (rows : List Row)
    (loose : List (Nat × XFile)) : Prop where
  pk_nodup : (packs.map (·.1)).Nodup
  pk_le : ∀ p pk, getX packs p = some pk → pk.synced ≤ pk.flushed ∧ pk.flushed ≤ pk.segs.length
  rows_ok : ∀ r ∈ rows, ∃ pk, getX packs r.pack = some pk ∧ SegOK t (pk.segs.take (wm fl pk)) r
  keys_nodup : (rows.map (·.key)).Nodup
  ids_nodup : (rows.map (·.id)).Nodup
  ids_pos : ∀ r1 ∈ rows, ∀ r2 ∈ rows, r1.pack = r2.pack → r1.id < r2.id → r1.off + r1.len ≤ r2.off
  loose_nodup : (loose.map (·.1)).Nodup
  loose_ok : ∀ e ∈ loose, e.2.cid = e.1 ∧ e.2.dur = .synced
  keep_ok : ∀ k ∈ keep, k ∈ rows.map (·.key) ∨ k ∈ loose.map (·.1)

structure GW (fl : Bool) (t : Tab) (keep : List Nat) (x : XSt) : Prop where
  com : GC fl t keep x.packs x.rows x.loose
  sb : x.sandbox = none
  tgt : 0 < x.target

end Imp

/-! `GoodC`, `Good` and `AllGood` are `GC`, `GW` and `AllP GW` at `fl = false`, written out (`gc_false_iff`,
`gw_false_iff`); the proofs use `GC` and `GW`. -/

structure GoodC (t : Tab) (keep : List Nat) (packs : List (Nat × XPack)) (rows : List Row)
    (loose : List (Nat × XFile)) : Prop where
  pk_nodup : (packs.map (·.1)).Nodup
  pk_le : ∀ p pk, getX packs p = some pk → pk.synced ≤ pk.flushed ∧ pk.flushed ≤ pk.segs.length
  rows_ok : ∀ r ∈ rows, ∃ pk, getX packs r.pack = some pk ∧ SegOK t (pk.segs.take pk.synced) r
  keys_nodup : (rows.map (·.key)).Nodup
  ids_nodup : (rows.map (·.id)).Nodup
  ids_pos : ∀ r1 ∈ rows, ∀ r2 ∈ rows, r1.pack = r2.pack → r1.id < r2.id → r1.off + r1.len ≤ r2.off
  loose_nodup : (loose.map (·.1)).Nodup
  loose_ok : ∀ e ∈ loose, e.2.cid = e.1 ∧ e.2.dur = .synced
  keep_ok : ∀ k ∈ keep, k ∈ rows.map (·.key) ∨ k ∈ loose.map (·.1)

def Good (t : Tab) (keep : List Nat) (x : XSt) : Prop :=
  GoodC t keep x.packs x.rows x.loose ∧ x.sandbox = none ∧ 0 < x.target

def AllGood (t : Tab) (keep : List Nat) (x : XSt) (acts : List Act) : Prop :=
  ∀ k, Good t keep (execAll x (acts.take k))

theorem Imp.gc_false_iff {t : Tab} {keep : List Nat} {packs : List (Nat × XPack)} {rows : List Row}
    {loose : List (Nat × XFile)} : Imp.GC false t keep packs rows loose ↔ GoodC t keep packs rows loose :=
  ⟨fun g => { g with }, fun g => { g with }⟩

theorem Imp.gw_false_iff {t : Tab} {keep : List Nat} {x : XSt} : Imp.GW false t keep x ↔ Good t keep x :=
  ⟨fun g => ⟨gc_false_iff.mp g.com, g.sb, g.tgt⟩, fun g => ⟨gc_false_iff.mpr g.1, g.2.1, g.2.2⟩⟩

theorem allGood_start {t : Tab} {keep : List Nat} {x : XSt} {l : List Act} (h : AllGood t keep x l) : Good t keep x :=
  allP_start (P := Good t keep) h

/-- Actions of the pack writers that keep the invariant in whatever state they run (there are others: `Repack.harmless`).
    `ConcWalk` reads the same list as "allowed to the packer in any state". -/
def plain : Act → Bool
  | .lock _ | .unlock _ | .pkOpen _ | .pkWrite _ _ | .pkFlush _ | .pkFsync _ | .pkClose _ | .dirSync
  | .readLoose _ | .sqlInsert _ => true
  | .pkTruncate _ n => n == 0
  | _ => false

namespace Imp

section
variable {fl : Bool} {t : Tab} {keep : List Nat} {packs : List (Nat × XPack)} {rows : List Row}
  {loose : List (Nat × XFile)} {x : XSt}

theorem gw_ofSt {s : St} (inv : Inv t s) : GW fl t (keysOf s) (ofSt s) where
  sb := rfl
  tgt := inv.target_pos
  com :=
    { pk_nodup := keys_ofSt s ▸ inv.packs_nodup
      pk_le := fun p pk h => by
        rw [getX_ofSt] at h
        obtain ⟨segs, _, rfl⟩ := Option.map_eq_some_iff.mp h
        exact ⟨Nat.le_refl _, Nat.le_refl _⟩
      rows_ok := fun r hr => by
        obtain ⟨segs, hg, hs⟩ := rowOK_iff.mp (inv.rows_ok r hr)
        have e : (full segs).segs.take (wm fl (full segs)) = segs := by rw [wm_full]; exact List.take_length
        exact ⟨full segs, by rw [getX_ofSt, hg]; rfl, e.symm ▸ hs⟩
      keys_nodup := inv.keys_nodup
      ids_nodup := inv.ids_nodup
      ids_pos := inv.ids_pos
      loose_nodup := looseKeys_ofSt s ▸ inv.loose_nodup
      loose_ok := fun e he => by
        obtain ⟨a, ha, rfl⟩ := List.mem_map.mp he
        exact ⟨(inv.loose_ok a ha).symm, rfl⟩
      keep_ok := fun k hk => by
        rw [looseKeys_ofSt]
        exact List.mem_append.mp hk }

theorem GC.rowOK (g : GC fl t keep x.packs x.rows x.loose) {F : Nat → XPack → List Seg}
    (hF : ∀ p pk, getX x.packs p = some pk → pk.segs.take (wm fl pk) <+: F p pk) :
    ∀ r ∈ x.rows, RowOK t (x.packs.map (fun e => (e.1, F e.1 e.2))) r := by
  intro r hr
  obtain ⟨pk, hg, hs⟩ := g.rows_ok r hr
  exact rowOK_iff.mpr ⟨F r.pack pk, by simp only [getPack_mapX, hg, Option.map_some], segOK_prefix (hF _ _ hg) hs⟩

/-- The crash image, the power-loss image and the completed run all replace each pack file by some `F` of it and read
    each loose file as `G`: safe when `F` keeps the pack up to the watermark. -/
theorem GC.view (wf : t.WF) (g : GC fl t keep x.packs x.rows x.loose) (F : Nat → XPack → List Seg) (G : XFile → Nat)
    (cur : Nat) (hF : ∀ p pk, getX x.packs p = some pk → pk.segs.take (wm fl pk) <+: F p pk)
    (hG : ∀ c, G ⟨c, .synced⟩ = c) :
    SafeImg t { loose := x.loose.map (fun e => (e.1, G e.2)), packs := x.packs.map (fun e => (e.1, F e.1 e.2)),
                rows := x.rows, cur := cur, target := x.target } keep := by
  refine safeImg_of wf (g.rowOK hF) ?_ ?_
  · intro e he
    obtain ⟨⟨k, c, d⟩, ha, rfl⟩ := List.mem_map.mp he
    obtain ⟨rfl, rfl⟩ : c = k ∧ d = .synced := g.loose_ok _ ha
    exact (hG c).symm
  · intro k hk
    rw [List.map_map]
    exact g.keep_ok k hk

theorem gc_inv (g : GC fl t keep x.packs x.rows x.loose) (ht : 0 < x.target) : Inv t (toSt x) where
  rows_ok := g.rowOK (F := fun _ pk => pk.segs) fun _ _ _ => List.take_prefix _ _
  keys_nodup := g.keys_nodup
  ids_nodup := g.ids_nodup
  ids_pos := g.ids_pos
  packs_nodup := keys_segsOf x.packs ▸ g.pk_nodup
  loose_nodup := by rw [toSt, List.map_map]; exact g.loose_nodup
  loose_ok := fun e he => by
    obtain ⟨a, ha, rfl⟩ := List.mem_map.mp he
    exact (g.loose_ok a ha).1.symm
  target_pos := ht

theorem gc_safe (wf : t.WF) (g : GC fl t keep x.packs x.rows x.loose) (ht : 0 < x.target) :
    (∀ cut, SafeImg t (crashImg x cut) keep) ∧ SafeImg t (toSt x) keep ∧ Inv t (toSt x) :=
  ⟨fun cut => g.view wf (fun p pk => pk.segs.take (pk.flushed + cut p)) (fun f => if f.dur = .buffered then garbage else f.cid)
      0 (fun p pk hg => List.take_prefix_take_left (Nat.le_trans (wm_le (g.pk_le p pk hg).1) (Nat.le_add_right ..)))
      (fun _ => rfl),
    g.view wf (fun _ pk => pk.segs) (·.cid) x.cur (fun _ _ _ => List.take_prefix _ _) (fun _ => rfl), gc_inv g ht⟩

theorem gc_power (wf : t.WF) (g : GC false t keep x.packs x.rows x.loose) : SafeImg t (powerImg x) keep :=
  g.view wf (fun _ pk => pk.segs.take pk.synced) (fun f => if f.dur = .synced then f.cid else garbage) 0
    (fun _ _ _ => List.prefix_rfl) (fun _ => rfl)

/-- every pack file is still there and has only grown above its watermark -/
def PkExt (fl : Bool) (ps ps' : List (Nat × XPack)) : Prop :=
  ∀ q pk, getX ps q = some pk → ∃ pk', getX ps' q = some pk' ∧ pk.segs.take (wm fl pk) <+: pk'.segs.take (wm fl pk')

theorem pkExt_refl (fl : Bool) (ps : List (Nat × XPack)) : PkExt fl ps ps :=
  fun _ pk h => ⟨pk, h, List.prefix_rfl⟩

theorem pkExt_updX (ps : List (Nat × XPack)) (p : Nat) (f : XPack → XPack)
    (hf : ∀ pk, getX ps p = some pk → pk.segs.take (wm fl pk) <+: (f pk).segs.take (wm fl (f pk))) :
    PkExt fl ps (updX ps p f) := by
  intro q pk hq
  rw [getX_updX]
  split
  · next h => exact ⟨f pk, by rw [← h, hq]; rfl, hf pk (h ▸ hq)⟩
  · exact ⟨pk, hq, List.prefix_rfl⟩

theorem pkExt_open (ps : List (Nat × XPack)) (p : Nat) : PkExt fl ps (openPacks ps p) := by
  intro q pk hq
  refine ⟨pk, ?_, List.prefix_rfl⟩
  rw [getX_openPacks]
  split
  · next h => rw [← h, hq]; rfl
  · exact hq

theorem gc_packs {packs' : List (Nat × XPack)} (g : GC fl t keep packs rows loose)
    (h1 : (packs'.map (·.1)).Nodup)
    (h2 : ∀ p pk, getX packs' p = some pk → pk.synced ≤ pk.flushed ∧ pk.flushed ≤ pk.segs.length)
    (h3 : PkExt fl packs packs') : GC fl t keep packs' rows loose := by
  refine { g with pk_nodup := h1, pk_le := h2, rows_ok := fun r hr => ?_ }
  obtain ⟨pk, hg, hs⟩ := g.rows_ok r hr
  obtain ⟨pk', hg', he⟩ := h3 _ _ hg
  exact ⟨pk', hg', segOK_prefix he hs⟩

theorem gc_updX (g : GC fl t keep packs rows loose) (p : Nat) (f : XPack → XPack)
    (hf : ∀ pk, getX packs p = some pk → pk.synced ≤ pk.flushed → pk.flushed ≤ pk.segs.length →
      ((f pk).synced ≤ (f pk).flushed ∧ (f pk).flushed ≤ (f pk).segs.length ∧
        pk.segs.take (wm fl pk) <+: (f pk).segs.take (wm fl (f pk)))) :
    GC fl t keep (updX packs p f) rows loose := by
  refine gc_packs g (keys_updX packs p f ▸ g.pk_nodup) ?_
    (pkExt_updX _ _ _ fun pk hg => (hf pk hg (g.pk_le _ _ hg).1 (g.pk_le _ _ hg).2).2.2)
  intro q pk hq
  rw [getX_updX] at hq
  split at hq
  · subst q
    obtain ⟨pk0, hg, rfl⟩ := Option.map_eq_some_iff.mp hq
    have h := hf pk0 hg (g.pk_le _ _ hg).1 (g.pk_le _ _ hg).2
    exact ⟨h.1, h.2.1⟩
  · exact g.pk_le _ _ hq

theorem gc_write (g : GC fl t keep packs rows loose) (p : Nat) (sg : Seg) :
    GC fl t keep (updX packs p (fun pk => { pk with segs := pk.segs ++ [sg] })) rows loose :=
  gc_updX g p _ fun pk _ a b => by
    refine ⟨a, ?_, ?_⟩
    · show pk.flushed ≤ (pk.segs ++ [sg]).length
      rw [List.length_append]
      exact Nat.le_add_right_of_le b
    · show pk.segs.take (wm fl pk) <+: (pk.segs ++ [sg]).take (wm fl pk)
      rw [List.take_append]
      exact List.prefix_append _ _

theorem gc_flush (g : GC fl t keep packs rows loose) (p : Nat) :
    GC fl t keep (updX packs p (fun pk => { pk with flushed := pk.segs.length })) rows loose :=
  gc_updX g p _ fun _ _ a b =>
    ⟨Nat.le_trans a b, Nat.le_refl _, List.take_prefix_take_left (wm_mono (Nat.le_refl _) b)⟩

theorem gc_fsync (g : GC fl t keep packs rows loose) (p : Nat) :
    GC fl t keep (updX packs p (fun pk => { pk with synced := pk.flushed })) rows loose :=
  gc_updX g p _ fun _ _ a b => ⟨Nat.le_refl _, b, List.take_prefix_take_left (wm_mono a (Nat.le_refl _))⟩

theorem gc_truncate (g : GC fl t keep packs rows loose) (p n : Nat)
    (hn : ∀ pk, getX packs p = some pk → pk.flushed + n ≤ pk.segs.length) :
    GC fl t keep (updX packs p (fun pk =>
        let segs := pk.segs.take (pk.segs.length - n)
        { segs := segs, flushed := segs.length, synced := min pk.synced segs.length })) rows loose := by
  apply gc_updX g
  intro pk hg a b
  have hfk : pk.flushed ≤ pk.segs.length - n := Nat.le_sub_of_add_le (hn pk hg)
  have hl : pk.segs.length - n = (pk.segs.take (pk.segs.length - n)).length := by
    rw [List.length_take, Nat.min_eq_left (Nat.sub_le ..)]
  refine ⟨Nat.min_le_right .., Nat.le_refl _, ?_⟩
  -- below the cut, the truncated file is the old one
  rw [show pk.segs.take (wm fl pk) = (pk.segs.take (pk.segs.length - n)).take (wm fl pk) by
    rw [List.take_take, Nat.min_eq_left (Nat.le_trans (wm_le a) hfk)]]
  have h2 : pk.flushed ≤ (pk.segs.take (pk.segs.length - n)).length := hl ▸ hfk
  exact List.take_prefix_take_left (wm_mono (Nat.le_min.mpr ⟨Nat.le_refl _, Nat.le_trans a h2⟩) h2)

theorem gc_open (g : GC fl t keep packs rows loose) (p : Nat) : GC fl t keep (openPacks packs p) rows loose := by
  refine gc_packs g (nodup_keys_openPacks p g.pk_nodup) ?_ (pkExt_open packs p)
  intro q pk hq
  rw [getX_openPacks] at hq
  split at hq
  · cases hg : getX packs p with
    | none => rw [hg] at hq; cases hq; exact ⟨Nat.le_refl _, Nat.le_refl _⟩
    | some pk0 => rw [hg] at hq; cases hq; exact g.pk_le _ _ hg
  · exact g.pk_le _ _ hq

/-- loose files may go as long as the key of each is indexed -/
theorem gc_filter (g : GC fl t keep packs rows loose) (f : Nat → Bool)
    (hf : ∀ k, f k = false → k ∈ rows.map (·.key)) : GC fl t keep packs rows (loose.filter (fun e => f e.1)) :=
  { g with
    loose_nodup := g.loose_nodup.sublist (List.filter_sublist.map _)
    loose_ok := fun e he => g.loose_ok e (List.mem_filter.mp he).1
    keep_ok := fun k hk => (g.keep_ok k hk).elim .inl fun h =>
      if e : f k = true then .inr (mem_map_filter h e) else .inl (hf k (Bool.eq_false_iff.mpr e)) }

theorem GW.setPacks {packs' : List (Nat × XPack)} (g : GW fl t keep x) (h : GC fl t keep packs' x.rows x.loose) :
    GW fl t keep { x with packs := packs' } := ⟨h, g.sb, g.tgt⟩

theorem gw_plain (g : GW fl t keep x) {a : Act} (ha : plain a = true) : GW fl t keep (exec x a) := by
  cases a with
  | dirSync | readLoose _ => exact g
  | lock _ | unlock _ | sqlInsert _ => exact ⟨g.com, g.sb, g.tgt⟩
  | pkOpen p => exact exec_pkOpen x p ▸ g.setPacks (gc_open g.com p)
  | pkWrite p sg => exact g.setPacks (gc_write g.com p sg)
  | pkFlush p | pkClose p => exact g.setPacks (gc_flush g.com p)
  | pkFsync p => exact g.setPacks (gc_fsync g.com p)
  | pkTruncate p n =>
    obtain rfl : n = 0 := eq_of_beq (a := n) ha
    exact g.setPacks (gc_truncate g.com p 0 (fun pk hg => (g.com.pk_le _ _ hg).2))
  | _ => contradiction

theorem allP_plain {l : List Act} (g : GW fl t keep x) (h : ∀ a ∈ l, plain a = true) : AllP (GW fl t keep) x l :=
  allP_of_step (A := fun a => plain a = true) (fun _ _ ha g => gw_plain g ha) h g

end

end Imp

theorem allSafe_of_gw {t : Tab} (wf : t.WF) {s : St} {acts : List Act} {keep : List Nat}
    (h : AllP (Imp.GW false t keep) (ofSt s) acts) : AllSafe t s acts keep :=
  allSafe_of_allP (P := Imp.GW false t keep) (fun _ g =>
    have c := Imp.gc_safe wf g.com g.tgt
    ⟨c.1, Imp.gc_power wf g.com, c.2⟩) h

theorem good_ofSt {t : Tab} {s : St} (inv : Inv t s) : Good t (keysOf s) (ofSt s) := Imp.gw_false_iff.mp (Imp.gw_ofSt inv)

theorem allSafe_of_allGood {t : Tab} (wf : t.WF) {s : St} {acts : List Act} {keep : List Nat}
    (h : AllGood t keep (ofSt s) acts) : AllSafe t s acts keep :=
  allSafe_of_gw wf (allP_mono (fun _ => Imp.gw_false_iff.mpr) h)

end Dos.IO
