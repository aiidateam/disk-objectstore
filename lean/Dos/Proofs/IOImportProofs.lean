import Dos.Proofs.IOSim

namespace Dos.IO

/-- `AllSafe` without the power-loss clause (C06: that needs the fsyncs) -/
def CrashFaultSafe (t : Tab) (s : St) (acts : List Act) (keep : List Nat) : Prop :=
  ∀ k : Nat,
    (∀ cut : Nat → Nat, SafeImg t (crashImg (execAll (ofSt s) (acts.take k)) cut) keep) ∧
    SafeImg t (toSt (runFault (ofSt s) acts k)) keep ∧
    Inv t (toSt (runFault (ofSt s) acts k))

theorem crashFaultSafe_of_allP {t : Tab} (wf : t.WF) {s : St} {acts : List Act} {keep : List Nat}
    (h : AllP (Imp.GW true t keep) (ofSt s) acts) : CrashFaultSafe t s acts keep := by
  intro k
  rw [toSt_runFault]
  exact Imp.gc_safe wf (h k).com (h k).tgt

namespace Imp
variable {fl : Bool} {t : Tab} {keep : List Nat} {x : XSt} {b : St}

theorem callActs_snd (t : Tab) (s : St) (cs : List Nat) (z nh rt df dc : Bool) (ht : 0 < s.target) :
    (callActs t s cs z nh rt df dc).2 = addPacked t s cs z nh := by
  rw [callActs_eq]
  split
  · next h => subst h; rfl
  · next h => rw [addPacked_eq_foldl t s cs z nh ht h]; exact foldl_wAddG_s ..

theorem call_step (i : Idle fl t keep x b) (cs : List Nat) (z nh rt df dc : Bool) (hfs : fl = false → df = true) :
    AllP (GW fl t keep) x (callActs t b cs z nh rt df dc).1 ∧
    Idle fl t keep (execAll x (callActs t b cs z nh rt df dc).1) (callActs t b cs z nh rt df dc).2 := by
  rw [callActs_eq]
  split
  · exact ⟨allP_nil i.good, { i with inv := inv_set_cur i.inv _ }⟩
  · obtain ⟨ks, h⟩ := Emits.foldl_add (e := (sessionEndO · · nh df dc)) (nh := nh) (s0 := b) z rt cs Emits.init
    have := h.fin_sim (ends_sessionEndO nh df dc hfs) i
    rwa [show gone false ks = [] from rfl, removeLoose_nil] at this

theorem calls_step (z nh rt df : Bool) (hfs : fl = false → df = true) (calls : List (List Nat)) :
    ∀ {x : XSt} {b : St}, Idle fl t keep x b →
      AllP (GW fl t keep) x (callsGo t z nh rt df b calls) ∧
      Idle fl t keep (execAll x (callsGo t z nh rt df b calls)) (callsSt t z nh b calls) := by
  induction calls with
  | nil => exact fun i => ⟨allP_nil i.good, i⟩
  | cons cs rest ih =>
    intro x b i
    obtain ⟨a1, i1⟩ := call_step i cs z nh rt df false hfs
    rw [callActs_snd t b cs z nh rt df false i.inv.target_pos] at i1
    obtain ⟨a2, i2⟩ := ih i1
    have e : callsGo t z nh rt df b (cs :: rest) =
        (callActs t b cs z nh rt df false).1 ++ callsGo t z nh rt df (addPacked t b cs z nh) rest := by
      simp only [callsGo, callActs_snd t b cs z nh rt df false i.inv.target_pos]
    rw [e]
    exact ⟨allP_append a1 a2, execAll_append .. ▸ i2⟩

theorem import_step (i : Idle fl t keep x b) (calls : List (List Nat)) (z nh rt df : Bool)
    (hfs : fl = false → df = true) :
    AllP (GW fl t keep) x (actsImport t b calls z nh rt df) ∧
    Idle fl t keep (execAll x (actsImport t b calls z nh rt df)) (callsSt t z nh b calls) ∧
    (execAll x (actsImport t b calls z nh rt df)).work = none := by
  obtain ⟨a1, i1⟩ := calls_step z nh rt df hfs calls i
  unfold actsImport
  rw [execAll_append]
  exact ⟨allP_append a1 (allP_single i1.good (idle_commit i1).good), idle_commit i1, rfl⟩

theorem sameDisk_of_idle (i : Idle fl t keep x b) (hw : x.work = none) : SameDisk (toSt x) b :=
  ⟨i.packs, by have := i.rows; rwa [workOf, hw] at this, fun _ => by rw [← i.loose]; rfl, i.target⟩

end Imp

theorem crashfault_addPackedO {t : Tab} (wf : t.WF) {s : St} (inv : Inv t s) (hb : Bounded s) (cs : List Nat)
    (hc : ∀ c ∈ cs, c < garbage) (z nh rt doFsync : Bool) :
    CrashFaultSafe t s (actsAddPackedO t s cs z nh rt doFsync) (keysOf s) := by
  have _ := hb
  have _ := hc
  exact crashFaultSafe_of_allP wf
    (Imp.call_step (fl := true) (Imp.idle_ofSt inv) cs z nh rt doFsync true (fun h => nomatch h)).1

theorem done_addPackedO {t : Tab} {s : St} (inv : Inv t s) (cs : List Nat) (z nh rt doFsync : Bool) :
    SameDisk (toSt (execAll (ofSt s) (actsAddPackedO t s cs z nh rt doFsync))) (addPacked t s cs z nh) := by
  have i := (Imp.call_step (fl := true) (Imp.idle_ofSt inv) cs z nh rt doFsync true (fun h => nomatch h)).2
  rw [Imp.callActs_snd (ht := inv.target_pos)] at i
  refine Imp.sameDisk_of_idle i ?_
  rw [actsAddPackedO, callActs_eq]
  split
  · rfl
  · obtain ⟨ks, h⟩ := Emits.foldl_add (t := t) (e := (sessionEndO · · nh doFsync true)) (nh := nh) (s0 := s) z rt cs
      Emits.init
    exact (h.work (x0 := ofSt s) (fun x q rs => Imp.work_sessionEndO x q rs nh doFsync) rfl :)

theorem done_import {t : Tab} {s : St} (inv : Inv t s) (calls : List (List Nat)) (z nh rt doFsync : Bool) :
    SameDisk (toSt (execAll (ofSt s) (actsImport t s calls z nh rt doFsync))) (callsSt t z nh s calls) :=
  have ⟨_, i, hw⟩ := Imp.import_step (fl := true) (Imp.idle_ofSt inv) calls z nh rt doFsync (fun h => nomatch h)
  Imp.sameDisk_of_idle i hw

/-- `import_objects` with the default `do_fsync=True`: nothing is committed before the single final commit, and by then
    every pack written has been flushed and fsynced -/
theorem safe_import {t : Tab} (wf : t.WF) {s : St} (inv : Inv t s) (hb : Bounded s) (calls : List (List Nat))
    (hc : ∀ cs ∈ calls, ∀ c ∈ cs, c < garbage) (z nh rt : Bool) :
    AllSafe t s (actsImport t s calls z nh rt true) (keysOf s) := by
  have _ := hb
  have _ := hc
  exact allSafe_of_gw wf (Imp.import_step (Imp.idle_ofSt inv) calls z nh rt true (fun _ => rfl)).1

theorem crashfault_import {t : Tab} (wf : t.WF) {s : St} (inv : Inv t s) (hb : Bounded s) (calls : List (List Nat))
    (hc : ∀ cs ∈ calls, ∀ c ∈ cs, c < garbage) (z nh rt doFsync : Bool) :
    CrashFaultSafe t s (actsImport t s calls z nh rt doFsync) (keysOf s) := by
  have _ := hb
  have _ := hc
  exact crashFaultSafe_of_allP wf
    (Imp.import_step (fl := true) (Imp.idle_ofSt inv) calls z nh rt doFsync (fun h => nomatch h)).1

end Dos.IO
