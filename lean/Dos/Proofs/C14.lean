/-
Import (C14) seen from the destination at Level B.
-/
import Dos.Proofs.C09

namespace Dos

theorem import_rows {t : Tab} {s s' : St} (inv : Inv t s) {w o : List Nat} {z same tr : Bool}
    (h : importObjs t s w o z same tr = some s') :
    (∀ r ∈ s.rows, r ∈ s'.rows) ∧
    (∀ r ∈ s'.rows, r ∈ s.rows ∨ (r.key ∈ importNeeded s w same ∧ r.z = z)) ∧
    (∀ c ∈ importNeeded s w same, hasRow s' c = true) ∧
    s'.loose = s.loose := by
  have _ := inv
  obtain ⟨hperm, hw⟩ := importObjs_session h
  refine ⟨hw.rows_kept, fun r hr => (hw.new_rows r hr).imp id fun hm => ?_, fun c hc => ?_, hw.loose⟩
  · rw [← mem_of_isPerm hperm]
    exact mem_map_pair.mp hm.1
  · rw [hw.hasRow_eq, map_fst_map_pair, List.contains_iff_mem.mpr ((mem_of_isPerm hperm c).mpr hc), Bool.or_true]

/-- packs grow only by the needed contents: what the destination already holds (in any form when the hash types agree,
    indexed otherwise) is not written again -/
theorem import_packs {t : Tab} {s s' : St} (inv : Inv t s) {w o : List Nat} {z same tr : Bool}
    (h : importObjs t s w o z same tr = some s') :
    (∀ p segs, getPack s.packs p = some segs →
        ∃ ext, getPack s'.packs p = some (segs ++ ext) ∧ ∀ g ∈ ext, g.cid ∈ importNeeded s w same ∧ g.z = z) ∧
    (∀ p segs, getPack s.packs p = none → getPack s'.packs p = some segs →
        ∀ g ∈ segs, g.cid ∈ importNeeded s w same ∧ g.z = z) := by
  have _ := inv
  obtain ⟨hperm, hw⟩ := importObjs_session h
  have hext : PExt (fun g => g.cid ∈ importNeeded s w same ∧ g.z = z) s.packs s'.packs := by
    refine hw.pext.mono fun g hg => ?_
    rw [← mem_of_isPerm hperm]
    exact mem_map_pair.mp hg.1
  exact ⟨fun p segs hg => hext.of_some hg, fun p segs hg hg' => hext.of_none hg hg'⟩

theorem import_no_junk {t : Tab} {s s' : St} (inv : Inv t s) {w o : List Nat} {z same tr : Bool}
    (h : importObjs t s w o z same tr = some s') :
    packBytes t s' + refBytes s = packBytes t s + refBytes s' :=
  have _ := inv
  (importObjs_session h).2.bal

/-- afterwards every requested content the source holds (`w`) is available and reads back as itself, and nothing else
    appeared -/
theorem import_exact {t : Tab} (wf : t.WF) {s s' : St} (inv : Inv t s) {w o : List Nat} {z same tr : Bool}
    (h : importObjs t s w o z same tr = some s') :
    (∀ k, has s' k = (has s k || w.contains k)) ∧ (∀ k ∈ w, getc t s' k = some k) ∧
    (∀ k, has s k = true → getc t s' k = some k) := by
  have inv' := inv_importObjs inv h
  have hh := has_importObjs h
  refine ⟨hh, ?_, ?_⟩
  · intro k hk
    apply getc_of_has wf inv'
    rw [hh, List.contains_iff_mem.mpr hk, Bool.or_true]
  · intro k hk
    apply getc_of_has wf inv'
    rw [hh, hk, Bool.true_or]

end Dos
