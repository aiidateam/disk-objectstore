/-
Denotation of the abstract state as bytes, and property C03 at the byte level.
-/
import Dos.Proofs.Basic

namespace Dos

abbrev Bytes := List UInt8

/-- contents and the compression codec, as parameters with the one law that matters -/
structure Codec where
  bytes : Nat → Bytes
  enc : Bytes → Bytes
  dec : Bytes → Option Bytes
  dec_enc : ∀ b, dec (enc b) = some b

structure Codec.Agrees (cd : Codec) (t : Tab) : Prop where
  size_eq : ∀ c, t.size c = (cd.bytes c).length
  zlen_eq : ∀ c, t.zlen c = (cd.enc (cd.bytes c)).length

def denSeg (cd : Codec) (g : Seg) : Bytes := if g.z then cd.enc (cd.bytes g.cid) else cd.bytes g.cid

def denPack (cd : Codec) (segs : List Seg) : Bytes := segs.flatMap (denSeg cd)

/-- the documented manual recovery: slice the pack at the row's offset/length, inflate if flagged -/
def recover (cd : Codec) (pack : Bytes) (r : Row) : Option Bytes :=
  let raw := (pack.drop r.off).take r.len
  if r.z then cd.dec raw else some raw

theorem denSeg_length {cd : Codec} {t : Tab} (ag : cd.Agrees t) (g : Seg) :
    (denSeg cd g).length = g.len t := by
  unfold denSeg Seg.len
  cases g.z
  · exact (ag.size_eq _).symm
  · exact (ag.zlen_eq _).symm

theorem denPack_length {cd : Codec} {t : Tab} (ag : cd.Agrees t) (segs : List Seg) :
    (denPack cd segs).length = segsLen t segs := by
  induction segs with
  | nil => rfl
  | cons g gs ih =>
    rw [denPack, List.flatMap_cons, List.length_append, ← denPack, ih, denSeg_length ag, segsLen_cons]

/-- C03: every index entry designates a range inside its pack which (inflated when flagged) is exactly the
    content named by the key; the recorded size is the content length, and equals the stored length when
    not compressed. -/
theorem row_bytes {cd : Codec} {t : Tab} (ag : cd.Agrees t) {s : St} (inv : Inv t s) {r : Row} (hr : r ∈ s.rows) :
    ∃ segs, getPack s.packs r.pack = some segs ∧
      r.off + r.len ≤ (denPack cd segs).length ∧
      recover cd (denPack cd segs) r = some (cd.bytes r.key) ∧
      r.size = (cd.bytes r.key).length ∧
      (r.z = false → r.len = r.size) := by
  obtain ⟨segs, pre, post, hg, rfl, hoff, hlen, hsize⟩ := inv.rows_ok r hr
  rw [← denPack_length ag] at hoff
  rw [← denSeg_length ag] at hlen
  have hd : denPack cd (pre ++ ⟨r.key, r.z⟩ :: post) = denPack cd pre ++ (denSeg cd ⟨r.key, r.z⟩ ++ denPack cd post) := by
    simp only [denPack, List.flatMap_append, List.flatMap_cons]
  refine ⟨_, hg, ?_, ?_, ?_, ?_⟩
  · rw [hd, hoff, hlen, List.length_append, List.length_append]
    exact Nat.add_le_add_left (Nat.le_add_right ..) _
  · rw [recover, hd, hoff, hlen, List.drop_left, List.take_left, denSeg]
    cases r.z
    · rfl
    · exact cd.dec_enc _
  · rw [hsize, ag.size_eq]
  · intro hz
    rw [denSeg_length ag, Seg.len, hz] at hlen
    exact hlen.trans hsize.symm

theorem rows_disjoint {t : Tab} {s : St} (inv : Inv t s) {r1 r2 : Row} (h1 : r1 ∈ s.rows) (h2 : r2 ∈ s.rows)
    (hne : r1 ≠ r2) (hp : r1.pack = r2.pack) : r1.off + r1.len ≤ r2.off ∨ r2.off + r2.len ≤ r1.off := by
  have hid : r1.id ≠ r2.id := fun h => hne (eq_of_map_nodup inv.ids_nodup h1 h2 h)
  rcases Nat.lt_or_gt_of_ne hid with h | h
  · exact Or.inl (inv.ids_pos r1 h1 r2 h2 hp h)
  · exact Or.inr (inv.ids_pos r2 h2 r1 h1 hp.symm h)

theorem key_indexed_once {t : Tab} {s : St} (inv : Inv t s) {r1 r2 : Row} (h1 : r1 ∈ s.rows) (h2 : r2 ∈ s.rows)
    (hk : r1.key = r2.key) : r1 = r2 :=
  eq_of_map_nodup inv.keys_nodup h1 h2 hk

end Dos
