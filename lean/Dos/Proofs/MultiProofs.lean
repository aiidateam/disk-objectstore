/-
C08: whatever a handle queried before and whatever the other handles did since, a handle finds every object the
container holds, with the right content, and lists it.
-/
import Dos.Multi
import Dos.Proofs.C10

namespace Dos.Multi

theorem mem_snaps_of_getSnap {m : MSt} {h : Nat} {rows : List Row} (hg : getSnap m h = some rows) :
    some rows ∈ m.snaps := by
  rw [getSnap, List.getD_eq_getElem?_getD] at hg
  cases he : m.snaps[h]? with
  | none => rw [he] at hg; cases hg
  | some v => rw [he] at hg; exact List.mem_of_getElem? (he.trans (congrArg some hg))

@[simp] theorem setSnap_disk (m : MSt) (h : Nat) (v : Option (List Row)) : (setSnap m h v).disk = m.disk := rfl

/-- the invariant of a reachable multi-handle state: a pinned snapshot is an earlier, shorter state of the index -/
structure MInv (t : Tab) (m : MSt) : Prop where
  inv : Inv t m.disk
  snap_sub : ∀ rows, some rows ∈ m.snaps → rows.Sublist m.disk.rows

theorem minv_setSnap {t : Tab} {m : MSt} (mi : MInv t m) (h : Nat) {v : Option (List Row)}
    (hv : ∀ rows, v = some rows → rows.Sublist m.disk.rows) : MInv t (setSnap m h v) :=
  ⟨mi.inv, fun rows hm => (List.mem_or_eq_of_mem_set hm).elim (mi.snap_sub rows) fun e => hv rows e.symm⟩

theorem minv_setSnap_cur {t : Tab} {m : MSt} (mi : MInv t m) (h : Nat) :
    MInv t (setSnap m h (some m.disk.rows)) :=
  minv_setSnap mi h (by intro rows hr; cases hr; exact .refl _)

theorem minv_disk {t : Tab} {m : MSt} (mi : MInv t m) {d : St} (hd : Inv t d)
    (hrows : m.disk.rows.Sublist d.rows) : MInv t { m with disk := d } :=
  ⟨hd, fun rows hm => (mi.snap_sub rows hm).trans hrows⟩

theorem pin_disk (m : MSt) (h : Nat) : (pin m h).2.disk = m.disk := by
  unfold pin; split <;> rfl

theorem minv_pin {t : Tab} {m : MSt} (mi : MInv t m) (h : Nat) : MInv t (pin m h).2 := by
  unfold pin; split
  · exact mi
  · exact minv_setSnap_cur mi h

theorem pin_sub {t : Tab} {m : MSt} (mi : MInv t m) (h : Nat) : (pin m h).1.Sublist m.disk.rows := by
  unfold pin; split
  · next rows hg => exact mi.snap_sub rows (mem_snaps_of_getSnap hg)
  · exact .refl _

theorem pin_nodup {t : Tab} {m : MSt} (mi : MInv t m) (h : Nat) : ((pin m h).1.map (·.key)).Nodup :=
  ((pin_sub mi h).map _).nodup mi.inv.keys_nodup

theorem lookup_disk (m : MSt) (h k : Nat) : (lookup m h k).2.disk = m.disk := by
  unfold lookup
  simp only
  split
  · exact pin_disk m h
  · split
    · exact pin_disk m h
    · split <;> simp only [setSnap_disk, pin_disk]

theorem minv_lookup {t : Tab} {m : MSt} (mi : MInv t m) (h k : Nat) : MInv t (lookup m h k).2 := by
  have hp := minv_pin mi h
  have h2 : MInv t (setSnap (pin m h).2 h (some m.disk.rows)) := by
    have := minv_setSnap_cur hp h
    rwa [pin_disk] at this
  unfold lookup
  simp only
  split
  · exact hp
  · split
    · exact hp
    · split <;> exact h2

theorem qHas_snd (m : MSt) (h k : Nat) : (qHas m h k).2 = (lookup m h k).2 := by
  unfold qHas; split <;> next he => rw [he]

theorem minv_mstep {t : Tab} {m m' : MSt} (mi : MInv t m) {op : MOp} (hs : mstep t m op = some m') :
    MInv t m' := by
  cases op with
  | add h c =>
    obtain rfl := Option.some.inj hs
    exact minv_disk mi (inv_addLoose mi.inv c) (addLoose_rows m.disk c ▸ .refl _)
  | pack mode order zs cl =>
    simp only [mstep] at hs
    split at hs
    · next d hd =>
      obtain rfl := Option.some.inj hs
      exact minv_setSnap (minv_disk mi (inv_packAll mi.inv hd) (packAll_rows_sublist hd)) 0 (by intro rows hr; cases hr)
    · cases hs
  | clean =>
    obtain rfl := Option.some.inj hs
    exact minv_setSnap (minv_disk mi (inv_clean mi.inv) (.refl _)) 0 (by intro rows hr; cases hr; exact .refl _)
  | qHas h k =>
    obtain rfl := Option.some.inj hs
    rw [qHas_snd]; exact minv_lookup mi h k
  | qGet h k =>
    obtain rfl := Option.some.inj hs
    exact minv_lookup mi h k
  | qList h =>
    obtain rfl := Option.some.inj hs
    exact minv_setSnap_cur mi h

theorem minv_mrun {t : Tab} {ops : List MOp} {m m' : MSt} (mi : MInv t m) (hr : mrun t m ops = some m') :
    MInv t m' := by
  induction ops generalizing m with
  | nil => cases hr; exact mi
  | cons op ops ih =>
    simp only [mrun] at hr
    split at hr
    · cases hr
    · next m1 h1 => exact ih (minv_mstep mi h1) hr

theorem minv_init (t : Tab) {tg : Nat} (htg : 0 < tg) (n : Nat) : MInv t (MSt.init tg n) :=
  ⟨inv_empty t htg, fun _ hm => nomatch (List.mem_replicate.1 hm).2⟩

theorem contentOf_congr {m m' : MSt} (hd : m'.disk = m.disk) (t : Tab) (f : Found) :
    contentOf t m' f = contentOf t m f := by
  cases f <;> simp only [contentOf, hd]

theorem lookup_found {t : Tab} (wf : t.WF) {m : MSt} (mi : MInv t m) (h k : Nat) (hk : has m.disk k = true) :
    (lookup m h k).1 ≠ .missing ∧ contentOf t m (lookup m h k).1 = some k := by
  have hsub : ∀ r ∈ (pin m h).1, r ∈ m.disk.rows := fun _ hr => (pin_sub mi h).subset hr
  have hrow : ∀ r ∈ m.disk.rows, r.key = k → contentOf t m (.packed r) = some k := fun r hr hkey => by
    rw [contentOf, readRow_of_rowOK wf (mi.inv.rows_ok r hr), hkey]
  unfold lookup
  simp only
  split
  · next r hf =>
    obtain ⟨hm, hkey⟩ := findRow_some hf
    exact ⟨by simp, hrow r (hsub r hm) hkey⟩
  · split
    · next c hl =>
      have := mi.inv.loose_ok _ (findLoose_some hl)
      simp only at this
      subst this
      exact ⟨by simp, rfl⟩
    · next hl =>
      split
      · next r hf =>
        obtain ⟨hm, hkey⟩ := findRow_some hf
        exact ⟨by simp, hrow r hm hkey⟩
      · next hf =>
        rcases find_of_has mi.inv hk with ⟨_, _, _, e⟩ | ⟨_, e⟩
        · cases hf.symm.trans e
        · cases hl.symm.trans e

theorem lookup_missing {t : Tab} {m : MSt} (mi : MInv t m) (h k : Nat) (hk : has m.disk k = false) :
    (lookup m h k).1 = .missing := by
  obtain ⟨hr, hl⟩ := find_of_not_has hk
  have hp : findRow (pin m h).1 k = none := by
    rw [findRow_none_iff]
    intro hm
    obtain ⟨r, hr1, hr2⟩ := List.mem_map.mp hm
    exact (findRow_none_iff.mp hr) (List.mem_map.mpr ⟨r, (pin_sub mi h).subset hr1, hr2⟩)
  unfold lookup
  simp only [hp, hl, hr]

theorem mem_qList {m : MSt} {h k : Nat} : k ∈ (qList m h).1 ↔ has m.disk k = true := by
  simp only [qList, List.mem_eraseDups, List.mem_append, has, Bool.or_eq_true, hasRow_iff, hasLoose_iff, looseKeys]

/-- all histories of add (any handle) / pack / clean (packing handle) / queries (any handle) over `n` handles -/
theorem handle_sees_acked {t : Tab} (wf : t.WF) {n tg : Nat} (htg : 0 < tg) {ops : List MOp} {m : MSt}
    (hrun : mrun t (MSt.init tg n) ops = some m) (h k : Nat) (hk : has m.disk k = true) :
    (lookup m h k).1 ≠ .missing ∧
    contentOf t (lookup m h k).2 (lookup m h k).1 = some k ∧
    (qHas m h k).1 = true ∧ (qGet t m h k).1 = some k ∧
    k ∈ (qList m h).1 := by
  have mi := minv_mrun (minv_init t htg n) hrun
  obtain ⟨h1, h3⟩ := lookup_found wf mi h k hk
  refine ⟨h1, (contentOf_congr (lookup_disk m h k) t _).trans h3, ?_, ?_, mem_qList.mpr hk⟩
  · unfold qHas
    split
    · next m' he => rw [he] at h1; exact absurd rfl h1
    · rfl
  · simpa [qGet] using h3

theorem handle_no_ghost {t : Tab} (wf : t.WF) {n tg : Nat} (htg : 0 < tg) {ops : List MOp} {m : MSt}
    (hrun : mrun t (MSt.init tg n) ops = some m) (h k : Nat) (hk : has m.disk k = false) :
    (lookup m h k).1 = .missing ∧ k ∉ (qList m h).1 := by
  have _ := wf
  have mi := minv_mrun (minv_init t htg n) hrun
  refine ⟨lookup_missing mi h k hk, ?_⟩
  rw [mem_qList, hk]; exact Bool.false_ne_true

theorem multi_inv {t : Tab} (wf : t.WF) {n tg : Nat} (htg : 0 < tg) {ops : List MOp} {m : MSt}
    (hrun : mrun t (MSt.init tg n) ops = some m) : Inv t m.disk := by
  have _ := wf
  exact (minv_mrun (minv_init t htg n) hrun).inv

end Dos.Multi
