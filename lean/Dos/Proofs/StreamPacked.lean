/-
C07 for `PackedObjectReader`: for EVERY program (in-range or not) the reader answers like an in-memory file over the
object that rejects out-of-range seeks; in particular it never returns a byte from outside the object.

A well-formed reader is `Packed.canon pre obj post pos` (`Packed.WF.eq_canon`); `canon_step` says what one command does to
it in terms of the guarded reference, and everything else follows from that one statement.
-/
import Dos.Proofs.StreamRef

namespace Dos.Stream

/-- the reader over `pre ++ obj ++ post` showing `obj`, at position `pos` -/
def Packed.canon (pre obj post : Bytes) (pos : Nat) : Packed :=
  ⟨⟨pre ++ obj ++ post, pre.length + pos⟩, pre.length, obj.length, pos⟩

theorem Packed.WF.eq_canon {p : Packed} {obj : Bytes} (wf : p.WF obj) :
    ∃ pre post, p = Packed.canon pre obj post p.pos ∧ p.pos ≤ obj.length := by
  obtain ⟨⟨pre, post, hd, ho⟩, hl, hf, hp⟩ := wf
  refine ⟨pre, post, ?_, hl ▸ hp⟩
  obtain ⟨⟨data, fpos⟩, off, len, pos⟩ := p
  simp only at hd ho hl hf
  subst hd ho hl hf
  rfl

theorem canon_wf (pre obj post : Bytes) (pos : Nat) (h : pos ≤ obj.length) :
    (Packed.canon pre obj post pos).WF obj :=
  ⟨⟨pre, post, rfl, rfl⟩, rfl, rfl, h⟩

theorem canon_tell (pre obj post : Bytes) (pos : Nat) : (Packed.canon pre obj post pos).tell = (pos : Int) := by
  show ((pre.length + pos : Nat) : Int) - (pre.length : Nat) = pos
  omega

/-- `_update_pos` finds a handle inside the window, whatever the cached position was -/
theorem updatePos_canon {pre obj post : Bytes} {q pos : Nat} (h : q ≤ obj.length) :
    Packed.updatePos ⟨⟨pre ++ obj ++ post, pre.length + q⟩, pre.length, obj.length, pos⟩ =
      some (Packed.canon pre obj post q) := by
  unfold Packed.updatePos
  rw [if_neg (Nat.not_lt.2 (Nat.le_add_right ..)), Nat.add_sub_cancel_left, if_neg (Nat.not_lt.2 h)]
  rfl

theorem read_canon (pre obj post : Bytes) (pos : Nat) (h : pos ≤ obj.length) (n : Int) :
    (Packed.canon pre obj post pos).read n =
      (Packed.canon pre obj post (Ref.step ⟨obj, pos⟩ (.read n)).1.pos, (Ref.step ⟨obj, pos⟩ (.read n)).2) := by
  -- the reader clips the count to what is left, the reference lets `slice` do it
  have hk : slice (pre ++ obj ++ post) (pre.length + pos)
        (if n < 0 then obj.length - pos else min (obj.length - pos) n.toNat) =
      slice obj pos (if n < 0 then obj.length - pos else n.toNat) := by
    split
    · exact slice_window (Nat.le_of_eq (Nat.add_sub_cancel' h))
    · rw [slice_window (Nat.add_le_of_le_sub' h (Nat.min_le_left ..)), slice_min]
  have hle := (slice_length_le h (if n < 0 then obj.length - pos else n.toNat)).2.1
  unfold Packed.read File.read Packed.canon
  dsimp only
  rw [hk, Nat.add_assoc, updatePos_canon hle]
  rfl

theorem seek_canon (pre obj post : Bytes) (pos : Nat) (t : Int) (w : Nat) :
    (Packed.canon pre obj post pos).seek t w =
      if (Cmd.seek t w).inRange obj.length pos = true then
        (Packed.canon pre obj post (seekTarget obj.length pos t w).toNat, .pos (seekTarget obj.length pos t w))
      else (Packed.canon pre obj post pos, .err .value) := by
  have ht : (if w = 1 then (Packed.canon pre obj post pos).tell + t
      else if w = 2 then (obj.length : Int) + t else t) = seekTarget obj.length pos t w := by
    rw [canon_tell]; rfl
  have hl : Int.ofNat (Packed.canon pre obj post pos).len = (obj.length : Int) := rfl
  have hr := inRange_seek_iff obj.length pos t w
  unfold Packed.seek
  simp only [hl, ht]
  by_cases hw : w > 2
  · rw [if_pos hw, if_neg fun h => Nat.not_le.2 hw (hr.1 h).1]
  rw [if_neg hw]
  by_cases h0 : seekTarget obj.length pos t w < 0
  · rw [if_pos h0, if_neg fun h => Int.not_le.2 h0 (hr.1 h).2.1]
  rw [if_neg h0]
  by_cases h1 : seekTarget obj.length pos t w > obj.length
  · rw [if_pos h1, if_neg fun h => Int.not_le.2 h1 (hr.1 h).2.2]
  rw [if_neg h1, if_pos (hr.2 ⟨Nat.not_lt.1 hw, Int.not_lt.1 h0, Int.not_lt.1 h1⟩)]
  unfold Packed.canon
  dsimp only
  rw [updatePos_canon (Int.toNat_le.2 (Int.not_lt.1 h1))]
  rfl

theorem canon_step (pre obj post : Bytes) (pos : Nat) (h : pos ≤ obj.length) (c : Cmd) :
    (Packed.canon pre obj post pos).step c =
      (Packed.canon pre obj post (Ref.stepGuarded ⟨obj, pos⟩ c).1.pos, (Ref.stepGuarded ⟨obj, pos⟩ c).2) := by
  cases c with
  | read n => exact read_canon pre obj post pos h n
  | seek t w =>
    rw [Packed.step, seek_canon, Ref.stepGuarded]
    split
    -- `⟨obj, pos⟩` is spelt out: left to unification against `hr`, it is found only after unfolding `inRange`, slowly
    · next hr => rw [ref_seek_in ⟨obj, pos⟩ t w hr]
    · rfl
  | tell => exact congrArg (fun n => (Packed.canon pre obj post pos, Out.pos n)) (canon_tell ..)

theorem packed_init_wf (pre obj post : Bytes) : (Packed.init (pre ++ obj ++ post) pre.length obj.length).WF obj :=
  canon_wf pre obj post 0 (Nat.zero_le _)

theorem packed_step {p : Packed} {obj : Bytes} (wf : p.WF obj) (c : Cmd) :
    ∃ p', p.step c = (p', (Ref.stepGuarded ⟨obj, p.pos⟩ c).2) ∧ p'.WF obj ∧
      p'.pos = (Ref.stepGuarded ⟨obj, p.pos⟩ c).1.pos := by
  obtain ⟨pre, post, hp, hle⟩ := wf.eq_canon
  have hs := canon_step pre obj post p.pos hle c
  rw [← hp] at hs
  exact ⟨_, hs, canon_wf _ _ _ _ (stepGuarded_pos_le ⟨obj, p.pos⟩ hle c), rfl⟩

theorem packed_read {p : Packed} {e : Bytes} (wf : p.WF e) (k : Nat) :
    ∃ p', p.read (Int.ofNat k) = (p', .data (slice e p.pos k)) ∧ p'.WF e ∧
      p'.pos = p.pos + (slice e p.pos k).length := by
  have := packed_step wf (.read (Int.ofNat k))
  rwa [show Ref.stepGuarded ⟨e, p.pos⟩ (.read (Int.ofNat k)) = _ from ref_read_nat ⟨e, p.pos⟩ k] at this

theorem packed_rewind {p : Packed} {e : Bytes} (wf : p.WF e) :
    ∃ p', p.seek 0 0 = (p', .pos 0) ∧ p'.WF e ∧ p'.pos = 0 := by
  have hr : (Cmd.seek 0 0).inRange e.length p.pos = true :=
    (inRange_seek_iff ..).2 ⟨by decide, Int.le_refl 0, Int.natCast_nonneg _⟩
  have := packed_step wf (.seek 0 0)
  rwa [Ref.stepGuarded, if_pos hr, ref_seek_in ⟨e, p.pos⟩ 0 0 hr] at this

theorem packed_refines_ref {p : Packed} {obj : Bytes} (wf : p.WF obj) (prog : List Cmd) :
    runPacked p prog = runRefGuarded ⟨obj, p.pos⟩ prog := by
  induction prog generalizing p with
  | nil => rfl
  | cons c cs ih =>
    obtain ⟨p', hs, wf', hp'⟩ := packed_step wf c
    show (p.step c).2 :: runPacked (p.step c).1 cs =
      (Ref.stepGuarded ⟨obj, p.pos⟩ c).2 :: runRefGuarded (Ref.stepGuarded ⟨obj, p.pos⟩ c).1 cs
    rw [hs, ih wf', hp', stepGuarded_eta]

/-- in-range programs behave exactly like `io.BytesIO` -/
theorem packed_refines_bytesio {p : Packed} {obj : Bytes} (wf : p.WF obj) (prog : List Cmd)
    (h : inRangeProg ⟨obj, p.pos⟩ prog = true) : runPacked p prog = runRef ⟨obj, p.pos⟩ prog := by
  rw [packed_refines_ref wf, runRefGuarded_inRange _ _ h]

theorem packed_oob_rejected {p : Packed} {obj : Bytes} (wf : p.WF obj) (t : Int) (w : Nat)
    (h : (Cmd.seek t w).inRange obj.length p.pos = false) : p.step (.seek t w) = (p, .err .value) := by
  obtain ⟨pre, post, hp, hle⟩ := wf.eq_canon
  rw [hp, canon_step _ _ _ _ hle, Ref.stepGuarded, if_neg (ne_true_of_eq_false h)]

theorem packed_read_within {p : Packed} {obj : Bytes} (wf : p.WF obj) (prog : List Cmd) :
    ∀ o ∈ runPacked p prog, ∀ out, o = .data out → ∃ q k, out = slice obj q k :=
  fun o ho => (runRefGuarded_ok ⟨obj, p.pos⟩ prog o (packed_refines_ref wf prog ▸ ho)).1

end Dos.Stream
