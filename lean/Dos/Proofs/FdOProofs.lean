/-
C18 (see `FdProofs.lean`) for the writers with options (`do_fsync`, `do_commit`) and `import_objects`.
-/
import Dos.Proofs.FdAux

namespace Dos.Fd
open Dos Dos.IO

theorem balanced_addPackedO (t : Tab) (s : St) (cs : List Nat) (z nh rt f : Bool) :
    held (actsAddPackedO t s cs z nh rt f) = 0 :=
  (run_callActs t s cs z nh rt f true).balanced

theorem bounded_addPackedO (t : Tab) (s : St) (cs : List Nat) (z nh rt f : Bool) (k : Nat) :
    0 ≤ held ((actsAddPackedO t s cs z nh rt f).take k) ∧ held ((actsAddPackedO t s cs z nh rt f).take k) ≤ 2 :=
  (run_callActs t s cs z nh rt f true).bounded k

theorem run_import (t : Tab) (s : St) (calls : List (List Nat)) (z nh rt f : Bool) :
    Run none false (actsImport t s calls z nh rt f) none false := by
  have h : ∀ s, Run none false (callsGo t z nh rt f s calls) none false := by
    induction calls with
    | nil => exact fun _ => .nil
    | cons cs rest ih => exact fun s => (run_callActs t s cs z nh rt f false).trans (ih _)
  exact (h s).trans (.skips [.sqlCommit] rfl)

theorem balanced_import (t : Tab) (s : St) (calls : List (List Nat)) (z nh rt f : Bool) :
    held (actsImport t s calls z nh rt f) = 0 :=
  (run_import t s calls z nh rt f).balanced

theorem bounded_import (t : Tab) (s : St) (calls : List (List Nat)) (z nh rt f : Bool) (k : Nat) :
    0 ≤ held ((actsImport t s calls z nh rt f).take k) ∧ held ((actsImport t s calls z nh rt f).take k) ≤ 2 :=
  (run_import t s calls z nh rt f).bounded k

theorem balanced_packAllO (t : Tab) (s : St) (order : List Nat) (zs : List Bool) (cl f : Bool) :
    held (actsPackAllO t s order zs cl f) = 0 :=
  (run_packAllO t s order zs cl f).balanced

theorem bounded_packAllO (t : Tab) (s : St) (order : List Nat) (zs : List Bool) (cl f : Bool) (k : Nat) :
    0 ≤ held ((actsPackAllO t s order zs cl f).take k) ∧ held ((actsPackAllO t s order zs cl f).take k) ≤ 2 :=
  (run_packAllO t s order zs cl f).bounded k

theorem held_take_append_bound {a b : List Act} {B : Int} (ha0 : held a = 0)
    (ha : ∀ k, 0 ≤ held (a.take k) ∧ held (a.take k) ≤ B) (hb : ∀ k, 0 ≤ held (b.take k) ∧ held (b.take k) ≤ B)
    (k : Nat) : 0 ≤ held ((a ++ b).take k) ∧ held ((a ++ b).take k) ≤ B := by
  rw [List.take_append, held_append]
  by_cases hk : k ≤ a.length
  · rw [Nat.sub_eq_zero_of_le hk, List.take_zero]
    exact (Int.add_zero _).symm ▸ ha k
  · rw [List.take_of_length_le (Nat.le_of_lt (Nat.lt_of_not_le hk)), ha0, Int.zero_add]
    exact hb _

/-- a concatenation of balanced, bounded action lists (= any sequence of operations, however long) is balanced and bounded:
    descriptors do not accumulate with the number of operations -/
theorem bounded_concat (ls : List (List Act)) (b : Int) (hb : 0 ≤ b)
    (hbal : ∀ l ∈ ls, held l = 0) (hbd : ∀ l ∈ ls, ∀ k, 0 ≤ held (l.take k) ∧ held (l.take k) ≤ b) (k : Nat) :
    held ls.flatten = 0 ∧ 0 ≤ held (ls.flatten.take k) ∧ held (ls.flatten.take k) ≤ b := by
  induction ls generalizing k with
  | nil => rw [List.flatten_nil, List.take_nil]; exact ⟨rfl, Int.le_refl _, hb⟩
  | cons l ls ih =>
    have h0 := hbal l List.mem_cons_self
    have ih' := ih (fun m hm => hbal m (List.mem_cons_of_mem _ hm)) fun m hm => hbd m (List.mem_cons_of_mem _ hm)
    rw [List.flatten_cons]
    exact ⟨by rw [held_append, h0, (ih' 0).1]; rfl,
      held_take_append_bound h0 (hbd l List.mem_cons_self) (fun j => (ih' j).2) k⟩

end Dos.Fd
