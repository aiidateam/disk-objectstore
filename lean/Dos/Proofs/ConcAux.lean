/-
What C04 (`Dos/Proofs/ConcProofs.lean`) rests on.  A step of any actor only moves the disk forward (`XStep`); for the
packer's actions that is what the discipline `pkAllowed` buys (`xstep_pk`).  Writers and readers do not touch what
`pkAllowed` reads (`SyncX`), so a program that is allowed when it runs alone stays allowed under every interleaving.
-/
import Dos.Conc
import Dos.IOSpec
import Dos.Proofs.Read
import Dos.Proofs.IOGood

namespace Dos.Conc
open Dos Dos.IO

/-- the row's range, read in the flushed prefix of its pack, is the row's own content -/
def FOK (t : Tab) (packs : List (Nat × XPack)) (r : Row) : Prop :=
  ∃ pk, getX packs r.pack = some pk ∧ findSeg t (pk.segs.take pk.flushed) r.off r.len r.z = some r.key

theorem readFlushed_of_fok {t : Tab} {x : XSt} {r : Row} (h : FOK t x.packs r) : readFlushed t x r = .ok r.key := by
  obtain ⟨pk, h1, h2⟩ := h
  simp only [readFlushed, h1, h2]

theorem gc_fok {t : Tab} (wf : t.WF) {keep : List Nat} {packs : List (Nat × XPack)} {rows : List Row}
    {loose : List (Nat × XFile)} (g : Imp.GC true t keep packs rows loose) :
    ∀ r ∈ rows, FOK t packs r ∧ r.size = t.size r.key := fun r hr =>
  let ⟨pk, h1, pre, post, hs⟩ := g.rows_ok r hr
  ⟨⟨pk, h1, findSeg_of_segOK wf ⟨pre, post, hs⟩⟩, hs.2.2.2⟩

/-- `Imp.PkExt true`: the watermark is the flushed prefix -/
theorem fok_mono {t : Tab} {ps ps' : List (Nat × XPack)} (h : Imp.PkExt true ps ps') {r : Row} (hr : FOK t ps r) :
    FOK t ps' r := by
  obtain ⟨pk, h1, h2⟩ := hr
  obtain ⟨pk', h3, ext, h4⟩ := h _ _ h1
  exact ⟨pk', h3, h4 ▸ findSeg_append ext h2⟩

def Avail (rows : List Row) (loose : List (Nat × XFile)) (k : Nat) : Prop :=
  k ∈ rows.map (·.key) ∨ loose.any (fun e => e.1 == k) = true

def LooseOK (loose : List (Nat × XFile)) : Prop := ∀ e ∈ loose, e.2.cid = e.1 ∧ e.2.dur = .synced

structure XStep (t : Tab) (x x' : XSt) : Prop where
  loose_ok : LooseOK x.loose → LooseOK x'.loose
  rows_ok : (∀ r ∈ x.rows, FOK t x.packs r) → ∀ r ∈ x'.rows, FOK t x'.packs r
  avail : ∀ k, Avail x.rows x.loose k → Avail x'.rows x'.loose k
  comm : ∀ k, k ∈ x.rows.map (·.key) → k ∈ x'.rows.map (·.key)
  fok : ∀ r, FOK t x.packs r → FOK t x'.packs r

theorem xstep_packs {t : Tab} {x x' : XSt} (h1 : x'.rows = x.rows) (h2 : x'.loose = x.loose)
    (h3 : Imp.PkExt true x.packs x'.packs) : XStep t x x' where
  loose_ok := by rw [h2]; exact id
  rows_ok := by rw [h1]; exact fun h r hr => fok_mono h3 (h r hr)
  avail := by rw [h1, h2]; exact fun _ => id
  comm := by rw [h1]; exact fun _ => id
  fok := fun _ => fok_mono h3

theorem xstep_same {t : Tab} {x x' : XSt} (h1 : x'.rows = x.rows) (h2 : x'.loose = x.loose)
    (h3 : x'.packs = x.packs) : XStep t x x' :=
  xstep_packs h1 h2 (h3 ▸ Imp.pkExt_refl true _)

theorem xstep_updX {t : Tab} (x : XSt) (p : Nat) (f : XPack → XPack)
    (hf : ∀ pk, pk.segs.take pk.flushed <+: (f pk).segs.take (f pk).flushed) :
    XStep t x { x with packs := updX x.packs p f } :=
  xstep_packs rfl rfl (Imp.pkExt_updX _ _ _ fun pk _ => hf pk)

theorem xstep_unlink {t : Tab} (x : XSt) (k : Nat) (hk : k ∈ x.rows.map (·.key)) :
    XStep t x (exec x (.looseUnlink k)) where
  loose_ok := fun h e he => h e (List.mem_filter.mp he).1
  rows_ok := id
  avail := fun k' hk' => hk'.elim Or.inl fun h => by
    by_cases e : k' = k
    · exact Or.inl (e ▸ hk)
    · exact Or.inr (any_filter_ne e h)
  comm := fun _ => id
  fok := fun _ => id

/-- the effect of `wpublish` on the disk -/
def publish (x : XSt) (k : Nat) : XSt :=
  { x with loose := x.loose.filter (fun e => e.1 != k) ++ [(k, { cid := k, dur := .synced })] }

theorem avail_publish (x : XSt) (k : Nat) : Avail (publish x k).rows (publish x k).loose k :=
  Or.inr (List.any_eq_true.mpr ⟨_, List.mem_append_right _ (List.mem_singleton_self _), beq_self_eq_true k⟩)

theorem xstep_publish {t : Tab} (x : XSt) (k : Nat) : XStep t x (publish x k) where
  loose_ok := fun h => forall_replace h ⟨rfl, rfl⟩
  rows_ok := id
  avail := fun k' hk' => by
    by_cases e : k' = k
    · exact e ▸ avail_publish x k
    · exact hk'.imp_right fun h => List.any_append.trans (Bool.or_eq_true_iff.mpr (.inl (any_filter_ne e h)))
  comm := fun _ => id
  fok := fun _ => id

theorem segOKb_iff {t : Tab} {segs : List Seg} {r : Row} :
    segOKb t segs r = true ↔ findSeg t segs r.off r.len r.z = some r.key ∧ r.size = t.size r.key := by
  unfold segOKb
  cases findSeg t segs r.off r.len r.z with
  | none => exact ⟨nofun, fun h => nomatch h.1⟩
  | some c => simp only [Bool.and_eq_true, beq_iff_eq, Option.some.injEq, eq_comm (a := r.size)]

theorem pkAllowed_commit {t : Tab} {x : XSt} : pkAllowed t x .sqlCommit = true ↔
    (∀ r ∈ workOf x, FOK t x.packs r ∧ r.size = t.size r.key) ∧ (∀ r ∈ x.rows, r ∈ workOf x) ∧
      ((workOf x).map (·.key)).Nodup := by
  show (_ && _ && _) = true ↔ _
  rw [Bool.and_eq_true, Bool.and_eq_true, List.all_eq_true, List.all_eq_true, nodupB_iff, and_assoc]
  refine and_congr (forall₂_congr fun r _ => ?_) (and_congr_left' (forall₂_congr fun r _ => List.contains_iff_mem))
  unfold FOK
  cases getX x.packs r.pack with
  | none => exact ⟨nofun, fun ⟨⟨_, h, _⟩, _⟩ => nomatch h⟩
  | some pk => simp only [segOKb_iff, Option.some.injEq, exists_eq_left']

theorem pkAllowed_unlink {t : Tab} {x : XSt} {k : Nat} :
    pkAllowed t x (.looseUnlink k) = true ↔ k ∈ x.rows.map (·.key) := by
  show x.rows.any _ = true ↔ _
  simp only [List.any_eq_true, beq_iff_eq, List.mem_map]

theorem xstep_commit {t : Tab} (x : XSt) (ha : pkAllowed t x .sqlCommit = true) :
    XStep t x (exec x .sqlCommit) := by
  obtain ⟨h1, h2, _⟩ := pkAllowed_commit.mp ha
  have comm : ∀ k, k ∈ x.rows.map (·.key) → k ∈ (workOf x).map (·.key) := fun k hk =>
    let ⟨r, hr, e⟩ := List.mem_map.mp hk
    List.mem_map.mpr ⟨r, h2 r hr, e⟩
  exact { loose_ok := id, rows_ok := fun _ r hr => (h1 r hr).1, avail := fun k hk => hk.imp_left (comm k), comm := comm,
          fok := fun _ => id }

theorem xstep_pk {t : Tab} (x : XSt) (a : Act) (ha : pkAllowed t x a = true) : XStep t x (exec x a) := by
  cases a with
  | looseUnlink k => exact xstep_unlink x k (pkAllowed_unlink.mp ha)
  | sqlCommit => exact xstep_commit x ha
  | pkOpen p =>
    rw [exec_pkOpen]
    exact xstep_packs rfl rfl (Imp.pkExt_open x.packs p)
  | pkWrite p sg => exact xstep_updX x p _ fun pk => ⟨_, List.take_append.symm⟩
  | pkFsync p => exact xstep_updX x p _ fun pk => List.prefix_rfl
  | pkFlush p | pkClose p =>
    refine xstep_updX x p _ fun pk => ?_
    show pk.segs.take pk.flushed <+: pk.segs.take pk.segs.length  -- everything is flushed now
    rw [List.take_length]; exact List.take_prefix _ _
  | pkTruncate p n =>
    cases beq_iff_eq.mp ha  -- `n = 0`: nothing is cut off, everything counts as flushed
    exact xstep_updX x p _ fun pk => by simp only [Nat.sub_zero, List.take_length]; exact List.take_prefix _ _
  | dirSync | mkdirLoose | readLoose | pkRead | lock | unlock | sqlInsert => exact xstep_same rfl rfl rfl
  | _ => contradiction

/-- `cstep` at an event of a writer unfolds to this `match`, so `exact wr_event ..` closes a goal about
    `cstep t g (.wcheck i)` as it stands; the guard `c` has to be given, the unifier does not find it (nor `P`, unless the
    goal is a constant applied to the state).  `rd_event` and `Backup.guarded` are the same device (a guarded update); one
    lemma generic in the matcher does not unify with what `cstep` unfolds to. -/
theorem wr_event {g : CSt} {P : CSt → Prop} (h : P g) (i : Nat) (c : Wr → Prop) [DecidablePred c] (G : Wr → CSt)
    (hG : ∀ w, g.writers[i]? = some w → c w → P (G w)) :
    P (match (generalizing := false) g.writers[i]? with
       | some w => if c w then G w else g
       | none => g) := by
  split
  · next w hw =>
    split
    · exact hG w hw ‹_›
    · exact h
  · exact h

theorem rd_event {g : CSt} {P : CSt → Prop} (h : P g) (i : Nat) (c : Rd → Prop) [DecidablePred c] (G : Rd → CSt)
    (hG : ∀ r, g.readers[i]? = some r → c r → P (G r)) :
    P (match (generalizing := false) g.readers[i]? with
       | some r => if c r then G r else g
       | none => g) := by
  split
  · next r hr =>
    split
    · exact hG r hr ‹_›
    · exact h
  · exact h

/-- What an event does to the disk: the packer executes its action, a writer at `wpublish` publishes one complete loose
    file, every other event leaves the disk alone.  Whatever is asked of `(cstep t g e).x` is asked of these three. -/
theorem cstep_disk {P : XSt → Prop} (t : Tab) (g : CSt) (e : Ev) (hpk : ∀ a, e = .pk a → P (exec g.x a)) (h0 : P g.x)
    (hpub : ∀ k, P (publish g.x k)) : P (cstep t g e).x := by
  cases e with
  | pk a => exact hpk a rfl
  | wcheck i => exact wr_event (P := (P ·.x)) h0 i (·.pc = 0) _ fun _ _ _ => h0
  | wpublish i => exact wr_event (P := (P ·.x)) h0 i (·.pc = 1) _ fun w _ _ => hpub w.key
  | wack i => exact wr_event (P := (P ·.x)) h0 i (·.pc = 2) _ fun _ _ _ => h0
  | pin i => exact rd_event (P := (P ·.x)) h0 i (·.pc = 0) _ fun _ _ _ => h0
  | look i => exact rd_event (P := (P ·.x)) h0 i (·.pc = 1) _ fun _ _ _ => h0
  | readPack i => exact rd_event (P := (P ·.x)) h0 i (fun r => r.pc = 2 ∨ r.pc = 6) _ fun _ _ _ => h0
  | openLoose i => exact rd_event (P := (P ·.x)) h0 i (·.pc = 3) _ fun _ _ _ => h0
  | repin i => exact rd_event (P := (P ·.x)) h0 i (·.pc = 4) _ fun _ _ _ => h0
  | look2 i => exact rd_event (P := (P ·.x)) h0 i (·.pc = 5) _ fun _ _ _ => h0

theorem cstep_rows (t : Tab) (g : CSt) {e : Ev} (he : e ≠ .pk .sqlCommit) : (cstep t g e).x.rows = g.x.rows :=
  cstep_disk (P := (·.rows = g.x.rows)) t g e (fun _ h => exec_rows_of_ne g.x fun ha => he (ha ▸ h)) rfl fun _ => rfl

theorem cstep_target (t : Tab) (g : CSt) (e : Ev) : (cstep t g e).x.target = g.x.target :=
  cstep_disk (P := (·.target = g.x.target)) t g e (fun a _ => exec_target g.x a) rfl fun _ => rfl

theorem xstep_cstep {t : Tab} (g : CSt) (e : Ev)
    (hd : (match e with
           | .pk a => pkAllowed t g.x a
           | _ => true) = true) : XStep t g.x (cstep t g e).x :=
  cstep_disk t g e (fun a h => by subst h; exact xstep_pk g.x a hd) (xstep_same rfl rfl rfl) (xstep_publish g.x)

/-- What is known of a reader at program counter `c`, along the retry chain of `Rd.pc`: a key acknowledged at the start is
    available when the snapshot misses it (3); if its loose file is gone by then it is committed (4), hence in the snapshot
    pinned next (5); a row found in a snapshot reads back from flushed bytes (2, 6); so a finished reader (9) has the
    content, or `missing` for a key that was not acknowledged. -/
def RdAt (t : Tab) (x : XSt) (r : Rd) : Nat → Prop
  | 2 | 6 => ∃ row, r.row = some row ∧ row.key = r.key ∧ FOK t x.packs row
  | 3 => r.key ∈ r.ackedAtStart → Avail x.rows x.loose r.key
  | 4 => r.key ∈ r.ackedAtStart → r.key ∈ x.rows.map (·.key)
  | 5 => r.key ∈ r.ackedAtStart → r.key ∈ (r.snap.getD []).map (·.key)
  | 9 => r.res = some (.ok r.key) ∨ (r.res = some .missing ∧ r.key ∉ r.ackedAtStart)
  | _ => True

/-- `RdAt` at the reader's own `pc`, and the snapshot reads back -/
structure RdOK (t : Tab) (x : XSt) (r : Rd) : Prop where
  snap : ∀ row ∈ r.snap.getD [], FOK t x.packs row
  found : r.pc = 2 ∨ r.pc = 6 → ∃ row, r.row = some row ∧ row.key = r.key ∧ FOK t x.packs row
  p3 : r.pc = 3 → r.key ∈ r.ackedAtStart → Avail x.rows x.loose r.key
  p4 : r.pc = 4 → r.key ∈ r.ackedAtStart → r.key ∈ x.rows.map (·.key)
  p5 : r.pc = 5 → r.key ∈ r.ackedAtStart → r.key ∈ (r.snap.getD []).map (·.key)
  p9 : r.pc = 9 → r.res = some (.ok r.key) ∨ (r.res = some .missing ∧ r.key ∉ r.ackedAtStart)

/-- loose files are complete and rows read back from flushed bytes; what is acknowledged, or about to be (`wr`), is
    available; every reader is on its way to a correct answer (`rd`) -/
structure CInv (t : Tab) (g : CSt) : Prop where
  loose_ok : LooseOK g.x.loose
  rows_ok : ∀ r ∈ g.x.rows, FOK t g.x.packs r
  acked : ∀ k ∈ g.acked, Avail g.x.rows g.x.loose k
  wr : ∀ w ∈ g.writers, w.pc = 2 → Avail g.x.rows g.x.loose w.key
  rd : ∀ r ∈ g.readers, RdOK t g.x r

/-- at a known program counter all but one of the fields of `RdOK` are vacuous -/
theorem rdOK_at {t : Tab} {x : XSt} {r : Rd} (c : Nat) (hc : r.pc = c)
    (snap : ∀ row ∈ r.snap.getD [], FOK t x.packs row) (h : RdAt t x r c) : RdOK t x r := by
  subst hc
  refine { snap := snap, found := fun hp => ?_, p3 := fun hp => ?_, p4 := fun hp => ?_, p5 := fun hp => ?_,
           p9 := fun hp => ?_ }
  · rcases hp with hp | hp <;> rw [hp] at h <;> exact h
  all_goals rw [hp] at h; exact h

theorem rdOK_xstep {t : Tab} {x x' : XSt} (h : XStep t x x') {r : Rd} (hr : RdOK t x r) : RdOK t x' r :=
  { hr with
    snap := fun row hrow => h.fok _ (hr.snap row hrow)
    found := fun hp => let ⟨row, h1, h2, h3⟩ := hr.found hp; ⟨row, h1, h2, h.fok _ h3⟩
    p3 := fun a b => h.avail _ (hr.p3 a b)
    p4 := fun a b => h.comm _ (hr.p4 a b) }

theorem cinv_xstep {t : Tab} {g : CSt} (h : CInv t g) {x' : XSt} (hx : XStep t g.x x') : CInv t { g with x := x' } where
  loose_ok := hx.loose_ok h.loose_ok
  rows_ok := hx.rows_ok h.rows_ok
  acked := fun k hk => hx.avail _ (h.acked k hk)
  wr := fun w hw hp => hx.avail _ (h.wr w hw hp)
  rd := fun r hr => rdOK_xstep hx (h.rd r hr)

theorem cinv_readers {t : Tab} {g : CSt} (h : CInv t g) (i : Nat) (F : Rd → Rd) {r0 : Rd}
    (h0 : g.readers[i]? = some r0) (hF : RdOK t g.x r0 → RdOK t g.x (F r0)) :
    CInv t { g with readers := updR g.readers i F } :=
  { h with
    rd := fun r hr => by
      rcases mem_mapIdx_ite hr with hr | ⟨r1, h1, rfl⟩
      · exact h.rd r hr
      · cases h0.symm.trans h1
        exact hF (h.rd r0 (List.mem_of_getElem? h0)) }

theorem cinv_writers {t : Tab} {g : CSt} (h : CInv t g) (i : Nat) (F : Wr → Wr) {w0 : Wr}
    (h0 : g.writers[i]? = some w0) (hF : (F w0).pc = 2 → Avail g.x.rows g.x.loose (F w0).key) :
    CInv t { g with writers := updW g.writers i F } :=
  { h with
    wr := fun w hw => by
      rcases mem_mapIdx_ite hw with hw | ⟨w1, h1, rfl⟩
      · exact h.wr w hw
      · cases h0.symm.trans h1
        exact hF }

theorem cinv_step {t : Tab} {g : CSt} (h : CInv t g) (e : Ev)
    (hd : (match e with
           | .pk a => pkAllowed t g.x a
           | _ => true) = true) : CInv t (cstep t g e) := by
  cases e with
  | pk a => exact cinv_xstep h (xstep_pk g.x a hd)
  | wcheck i =>
    refine wr_event h i (·.pc = 0) _ fun w hw _ => cinv_writers h i _ hw fun hp => Or.inr ?_
    by_cases hl : hasLooseX g.x w.key = true
    · exact hl
    · rw [if_neg hl] at hp; cases hp
  | wpublish i =>
    exact wr_event h i (·.pc = 1) _ fun w hw _ =>
      cinv_writers (cinv_xstep h (xstep_publish g.x w.key)) i _ hw fun _ => avail_publish g.x w.key
  | wack i =>
    refine wr_event h i (·.pc = 2) _ fun w hw hpc => ?_
    have h1 : CInv t { g with acked := w.key :: g.acked } :=
      { h with acked := fun k hk => (List.mem_cons.mp hk).elim (· ▸ h.wr w (List.mem_of_getElem? hw) hpc) (h.acked k) }
    exact cinv_writers h1 i _ hw nofun
  | pin i =>
    exact rd_event h i (·.pc = 0) _ fun r hr _ => cinv_readers h i _ hr fun _ => rdOK_at 1 rfl h.rows_ok trivial
  | look i =>
    refine rd_event h i (·.pc = 1) _ fun r hr _ => cinv_readers h i _ hr fun ok => ?_
    cases hf : findRow (r.snap.getD []) r.key with
    | some row => exact rdOK_at 2 rfl ok.snap ⟨row, rfl, (findRow_some hf).2, ok.snap row (findRow_some hf).1⟩
    | none => exact rdOK_at 3 rfl ok.snap (h.acked _)
  | readPack i =>
    refine rd_event h i (fun r => r.pc = 2 ∨ r.pc = 6) _ fun r hr hpc => cinv_readers h i _ hr fun ok => ?_
    obtain ⟨row, h1, h2, h3⟩ := ok.found hpc
    refine rdOK_at 9 rfl ok.snap (Or.inl ?_)
    simp only [h1, Option.map_some, readFlushed_of_fok h3, h2]
  | openLoose i =>
    refine rd_event h i (·.pc = 3) _ fun r hr hpc => cinv_readers h i _ hr fun ok => ?_
    cases hf : g.x.loose.find? (fun e => e.1 == r.key) with
    | some e =>
      have hk : e.1 = r.key := by simpa using List.find?_some hf
      obtain ⟨a, b⟩ := h.loose_ok e (List.mem_of_find?_eq_some hf)
      exact rdOK_at 9 rfl ok.snap (Or.inl (by simp [a, b, hk]))
    | none =>
      -- available (`p3`) and no longer a loose file, hence committed
      have hn : ¬ g.x.loose.any (fun e => e.1 == r.key) = true := fun ha =>
        let ⟨e, he, hk⟩ := List.any_eq_true.mp ha
        List.find?_eq_none.mp hf e he hk
      exact rdOK_at 4 rfl ok.snap fun ha => (ok.p3 hpc ha).resolve_right hn
  | repin i =>
    exact rd_event h i (·.pc = 4) _ fun r hr hpc => cinv_readers h i _ hr fun ok => rdOK_at 5 rfl h.rows_ok (ok.p4 hpc)
  | look2 i =>
    refine rd_event h i (·.pc = 5) _ fun r hr hpc => cinv_readers h i _ hr fun ok => ?_
    cases hf : findRow (r.snap.getD []) r.key with
    | some row => exact rdOK_at 6 rfl ok.snap ⟨row, rfl, (findRow_some hf).2, ok.snap row (findRow_some hf).1⟩
    | none => exact rdOK_at 9 rfl ok.snap (Or.inr ⟨rfl, fun ha => findRow_none_iff.mp hf (ok.p5 hpc ha)⟩)

theorem cinv_crun {t : Tab} (sched : List Ev) : ∀ g : CSt, CInv t g → disciplined t g sched = true →
    CInv t (crun t g sched) := by
  induction sched with
  | nil => intro g h _; exact h
  | cons e es ih =>
    intro g h hd
    simp only [disciplined, Bool.and_eq_true] at hd
    exact ih _ (cinv_step h e hd.1) hd.2

theorem cinv_init {t : Tab} (wf : t.WF) {s : St} (inv : Inv t s) (wkeys rkeys : List Nat) :
    CInv t (CSt.init s wkeys rkeys) :=
  have g := (Imp.gw_ofSt (fl := true) inv).com
  { loose_ok := g.loose_ok
    rows_ok := fun r hr => (gc_fok wf g r hr).1
    acked := fun k hk => (g.keep_ok k hk).imp_right fun h =>
      let ⟨e, he, hk⟩ := List.mem_map.mp h
      List.any_eq_true.mpr ⟨e, he, beq_iff_eq.mpr hk⟩
    wr := fun w hw hp => by
      obtain ⟨k, _, rfl⟩ := List.mem_map.mp hw
      cases hp
    rd := fun r hr => by
      obtain ⟨k, _, rfl⟩ := List.mem_map.mp hr
      exact rdOK_at 0 rfl nofun trivial }

/-- agreement on the pack files, the index and the open transaction: `pkAllowed` reads nothing else, `exec` computes them
    from nothing else (`exec_eq`), and writers and readers leave them alone -/
structure SyncX (x y : XSt) : Prop where
  packs : x.packs = y.packs
  rows : x.rows = y.rows
  work : x.work = y.work

theorem SyncX.refl (x : XSt) : SyncX x x := ⟨rfl, rfl, rfl⟩

theorem pkAllowed_sync {t : Tab} {x y : XSt} (h : SyncX x y) (a : Act) : pkAllowed t x a = pkAllowed t y a := by
  have e : ∀ x : XSt, pkAllowed t x a =
      pkAllowed t { x with loose := [], sandbox := none, locks := [], cur := 0, target := 0 } a := by
    intro x; cases a <;> rfl
  rw [e x, e y, h.packs, h.rows, h.work]

theorem exec_sync {x y : XSt} (h : SyncX x y) (a : Act) : SyncX (exec x a) (exec y a) := by
  rw [exec_eq, exec_eq]
  exact ⟨congrArg (execPacks · a) h.packs, by rw [h.rows, h.work], by rw [h.rows, h.work]⟩

theorem cstep_sync {t : Tab} {g : CSt} {y : XSt} {e : Ev} (he : ∀ a, e ≠ .pk a) (hs : SyncX g.x y) :
    SyncX (cstep t g e).x y :=
  -- `publish` changes `loose` only
  cstep_disk (P := (SyncX · y)) t g e (fun a h => absurd h (he a)) hs fun _ => ⟨hs.packs, hs.rows, hs.work⟩

end Dos.Conc
