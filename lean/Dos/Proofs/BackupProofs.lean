/-
C15: a backup that completes while writers add loose objects and the packer packs and cleans is itself a valid container:
everything that existed when it started reads back correctly from it, every key it exposes reads back correctly, and its
validation is clean - for every schedule in which the packer respects the discipline of `Dos.Conc` and commits only
indexes that lay the rows of a pack out in the order of their ids (`bdisciplined`, a hypothesis on the schedule), provided
the live SQLite side files are not copied.

`readFresh` answers `.loud` for a row whose pack id is the reserved `tmpId` (the temporary repack pack `-1`); `Inv`,
`Bounded` and the packer discipline do not exclude such a row (`backup_reads_needs_noTmp_witness`), hence `backup_reads`
with a hypothesis and `backup_reads_safe` without.
-/
import Dos.Proofs.Validate
import Dos.Proofs.BackupAux

namespace Dos.Backup
open Dos Dos.IO Dos.Conc

theorem binv_final {t : Tab} (wf : t.WF) {s : St} (inv : Inv t s) (wkeys rkeys : List Nat) (sched : List BEv)
    (hd : bdisciplined t (BSt.init (CSt.init s wkeys rkeys)) sched = true) (hnw : noWal sched = true) :
    BInv t (brun t (BSt.init (CSt.init s wkeys rkeys)) sched) :=
  binv_brun sched _ (binv_init wf inv wkeys rkeys) hd hnw

theorem backup_reads_loud_only_tmp {t : Tab} (wf : t.WF) {s : St} (inv : Inv t s) (wkeys rkeys : List Nat)
    (sched : List BEv)
    (hd : bdisciplined t (BSt.init (CSt.init s wkeys rkeys)) sched = true) (hnw : noWal sched = true)
    (hdone : (brun t (BSt.init (CSt.init s wkeys rkeys)) sched).phase = 3) (k : Nat)
    (hl : readFresh t (image (brun t (BSt.init (CSt.init s wkeys rkeys)) sched)) k = .loud) :
    ∃ r ∈ (brun t (BSt.init (CSt.init s wkeys rkeys)) sched).bkRows, r.key = k ∧ r.pack = tmpId := by
  -- true of any image: `readFresh` has no other way to answer `.loud`
  have _ := wf
  have _ := inv
  have _ := hd
  have _ := hnw
  have _ := hdone
  exact readFresh_loud hl

/-- the backup is a container (`Inv`), hence its validation is clean -/
theorem backup_valid {t : Tab} (wf : t.WF) {s : St} (inv : Inv t s) (hb : Bounded s) (wkeys rkeys : List Nat)
    (hw : ∀ k ∈ wkeys, k < garbage) (sched : List BEv)
    (hd : bdisciplined t (BSt.init (CSt.init s wkeys rkeys)) sched = true) (hnw : noWal sched = true)
    (hdone : (brun t (BSt.init (CSt.init s wkeys rkeys)) sched).phase = 3) :
    Inv t (image (brun t (BSt.init (CSt.init s wkeys rkeys)) sched)) ∧
    (validate t (image (brun t (BSt.init (CSt.init s wkeys rkeys)) sched))).clean = true := by
  have _ := hb
  have _ := hw
  have I := inv_image (binv_final wf inv wkeys rkeys sched hd hnw) hdone
  exact ⟨I, validate_clean wf I⟩

/-- every object that existed when the backup started reads back from the backup or fails loudly
    (`AssertionError: Invalid pack ID -1`), and no key reads as anything else: the shape of the crash-safety
    statements (`SafeImg`) -/
theorem backup_reads_safe {t : Tab} (wf : t.WF) {s : St} (inv : Inv t s) (hb : Bounded s)
    (wkeys rkeys : List Nat) (hw : ∀ k ∈ wkeys, k < garbage) (sched : List BEv)
    (hd : bdisciplined t (BSt.init (CSt.init s wkeys rkeys)) sched = true) (hnw : noWal sched = true)
    (hdone : (brun t (BSt.init (CSt.init s wkeys rkeys)) sched).phase = 3) :
    SafeImg t (image (brun t (BSt.init (CSt.init s wkeys rkeys)) sched))
      (brun t (BSt.init (CSt.init s wkeys rkeys)) sched).atStart := by
  have _ := hb
  have _ := hw
  exact safeImg_image wf (binv_final wf inv wkeys rkeys sched hd hnw) hdone

/-- the same without the loud failure, provided the backup's index does not name `tmpId` (needed:
    `backup_reads_needs_noTmp_witness`) -/
theorem backup_reads {t : Tab} (wf : t.WF) {s : St} (inv : Inv t s) (hb : Bounded s) (wkeys rkeys : List Nat)
    (hw : ∀ k ∈ wkeys, k < garbage) (sched : List BEv)
    (hd : bdisciplined t (BSt.init (CSt.init s wkeys rkeys)) sched = true) (hnw : noWal sched = true)
    (hdone : (brun t (BSt.init (CSt.init s wkeys rkeys)) sched).phase = 3)
    (hnt : ∀ r ∈ (brun t (BSt.init (CSt.init s wkeys rkeys)) sched).bkRows, r.pack ≠ tmpId) :
    (∀ k ∈ (brun t (BSt.init (CSt.init s wkeys rkeys)) sched).atStart,
        readFresh t (image (brun t (BSt.init (CSt.init s wkeys rkeys)) sched)) k = .ok k) ∧
    (∀ k, k < garbage →
        readFresh t (image (brun t (BSt.init (CSt.init s wkeys rkeys)) sched)) k = .ok k ∨
        readFresh t (image (brun t (BSt.init (CSt.init s wkeys rkeys)) sched)) k = .missing) := by
  have S := backup_reads_safe wf inv hb wkeys rkeys hw sched hd hnw hdone
  have nl : ∀ k, readFresh t (image (brun t (BSt.init (CSt.init s wkeys rkeys)) sched)) k ≠ .loud := fun k hl =>
    let ⟨r, hr, _, ht⟩ := readFresh_loud hl
    hnt r hr ht
  exact ⟨fun k hk => (S.1 k hk).resolve_right (nl k), fun k hk => (S.2 k hk).imp_right (·.resolve_right (nl k))⟩

def witTab : Tab := { size := fun _ => 1, zlen := fun _ => 9 }

theorem witTab_wf : witTab.WF :=
  ⟨fun _ => (by decide : 0 < 9), fun _ _ h => nomatch h⟩

def witRow (key pack : Nat) : Row := { id := 1, key := key, pack := pack, off := 0, len := 1, z := false, size := 1 }

def witSt (key pack : Nat) (loose : List (Nat × Nat)) : St :=
  { loose := loose, packs := [(pack, [⟨key, false⟩])], rows := [witRow key pack], cur := 0, target := 100 }

theorem witSt_inv (key pack : Nat) (loose : List (Nat × Nat)) (h1 : (loose.map (·.1)).Nodup)
    (h2 : ∀ e ∈ loose, e.1 = e.2) : Inv witTab (witSt key pack loose) where
  rows_ok := by
    intro r hr
    cases List.mem_singleton.mp hr
    exact ⟨[⟨key, false⟩], [], [], by simp [witSt, witRow, getPack], rfl, rfl, rfl, rfl⟩
  keys_nodup := by simp [witSt]
  ids_nodup := by simp [witSt]
  ids_pos := by
    intro r1 hr1 r2 hr2 _ hlt
    cases List.mem_singleton.mp hr1
    cases List.mem_singleton.mp hr2
    exact absurd hlt (Nat.lt_irrefl _)
  packs_nodup := by simp [witSt]
  loose_nodup := h1
  loose_ok := h2
  target_pos := (by decide : 0 < 100)

theorem witSt_bounded (key pack : Nat) (loose : List (Nat × Nat)) (h1 : key < garbage) (h2 : ∀ e ∈ loose, e.1 < garbage) :
    Bounded (witSt key pack loose) := by
  intro k hk
  rcases Bool.or_eq_true_iff.mp hk with h | h
  · cases List.mem_singleton.mp (hasRow_iff.mp h); exact h1
  · obtain ⟨e, he, rfl⟩ := List.mem_map.mp (hasLoose_iff.mp h); exact h2 e he

/-- without the proviso `hnt`, `backup_reads` fails: a row in the reserved pack id reads `.loud` from the backup (all
    other hypotheses hold, both conjuncts of the conclusion fail for `k = 5`) -/
theorem backup_reads_needs_noTmp_witness : ∃ (t : Tab) (s : St) (sched : List BEv), t.WF ∧ Inv t s ∧ Bounded s ∧
    bdisciplined t (BSt.init (CSt.init s [] [])) sched = true ∧ noWal sched = true ∧
    (brun t (BSt.init (CSt.init s [] [])) sched).phase = 3 ∧
    ∃ k, k ∈ (brun t (BSt.init (CSt.init s [] [])) sched).atStart ∧ k < garbage ∧
      readFresh t (image (brun t (BSt.init (CSt.init s [] [])) sched)) k = .loud :=
  -- the run of the schedule is evaluated by the kernel
  ⟨witTab, witSt 5 tmpId [], [.start, .dumpIndex, .cpPack tmpId, .finish], witTab_wf,
    witSt_inv 5 tmpId [] List.nodup_nil nofun, witSt_bounded 5 tmpId [] (by decide) nofun, by decide +kernel, by decide,
    by decide +kernel, 5, by decide +kernel, by decide, by decide +kernel⟩

/-- the schedule of `wal_copy_breaks_backup`: pack 0 is copied, then the packer appends object 5 to it and commits, then
    the live side files are copied -/
def walSched : List BEv :=
  [.start, .cpLoose 5, .dumpIndex, .cpPack 0,
   .sys (.pk (.pkWrite 0 ⟨5, false⟩)), .sys (.pk (.pkFlush 0)),
   .sys (.pk (.sqlInsert { id := 0, key := 5, pack := 0, off := 1, len := 1, z := false, size := 1 })),
   .sys (.pk .sqlCommit), .walCopied, .finish]

/-- why the exclusion of the live side files matters: a schedule in which they are copied and the backup is NOT consistent -/
theorem wal_copy_breaks_backup : ∃ (t : Tab) (s : St) (sched : List BEv), t.WF ∧ Inv t s ∧ Bounded s ∧
    bdisciplined t (BSt.init (CSt.init s [] [])) sched = true ∧
    (brun t (BSt.init (CSt.init s [] [])) sched).phase = 3 ∧
    ∃ k, k < garbage ∧ readFresh t (image (brun t (BSt.init (CSt.init s [] [])) sched)) k = .wrong :=
  ⟨witTab, witSt 3 0 [(5, 5)], walSched, witTab_wf,
    witSt_inv 3 0 [(5, 5)] (by decide) (by decide), witSt_bounded 3 0 [(5, 5)] (by decide) (by decide),
    by decide +kernel, by decide +kernel, 5, by decide, by decide +kernel⟩

end Dos.Backup
