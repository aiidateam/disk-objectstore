/-
Choosing and opening the pack to write to (`_get_pack_id_to_write_to`, `lock_pack`): what `choosePack` returns, and that
selecting again right after an `openCur` changes nothing.
-/
import Dos.Proofs.Basic

namespace Dos

theorem choosePackGo_spec (t : Tab) (packs : Packs) (tg : Nat) (f p : Nat) :
    p ≤ choosePackGo t packs tg f p ∧ choosePackGo t packs tg f p ≤ p + f ∧
    (∀ i, p ≤ i → i < choosePackGo t packs tg f p →
      ∃ segs, getPack packs i = some segs ∧ tg ≤ segsLen t segs) ∧
    (choosePackGo t packs tg f p < p + f →
      getPack packs (choosePackGo t packs tg f p) = none ∨
      ∃ segs, getPack packs (choosePackGo t packs tg f p) = some segs ∧ segsLen t segs < tg) := by
  fun_induction choosePackGo t packs tg f p with
  | case1 p => exact ⟨Nat.le_refl _, Nat.le_refl _, fun i h1 h2 => absurd h2 (Nat.not_lt.mpr h1), fun h => absurd h (Nat.lt_irrefl _)⟩
  | case2 f p hg =>
    exact ⟨Nat.le_refl _, Nat.le_add_right _ _, fun i h1 h2 => absurd h2 (Nat.not_lt.mpr h1), fun _ => Or.inl hg⟩
  | case3 f p segs hg hlt =>
    exact ⟨Nat.le_refl _, Nat.le_add_right _ _, fun i h1 h2 => absurd h2 (Nat.not_lt.mpr h1), fun _ => Or.inr ⟨segs, hg, hlt⟩⟩
  | case4 f p segs hg hlt ih =>
    have e : p + 1 + f = p + (f + 1) := Nat.add_right_comm p 1 f
    rw [e] at ih
    obtain ⟨h1, h2, h3, h4⟩ := ih
    refine ⟨Nat.le_of_succ_le h1, h2, ?_, h4⟩
    intro i hi1 hi2
    rcases Nat.eq_or_lt_of_le hi1 with rfl | hi
    · exact ⟨segs, hg, Nat.le_of_not_lt hlt⟩
    · exact h3 i hi hi2

theorem choosePackGo_below {t : Tab} {packs : Packs} {tg p : Nat} {segs : List Seg} (f : Nat)
    (hg : getPack packs p = some segs) (hlt : segsLen t segs < tg) : choosePackGo t packs tg (f + 1) p = p := by
  rw [choosePackGo, hg]
  exact if_pos hlt

theorem choosePack_spec (t : Tab) (s : St) :
    s.cur ≤ choosePack t s ∧
    (∀ i, s.cur ≤ i → i < choosePack t s →
      ∃ segs, getPack s.packs i = some segs ∧ s.target ≤ segsLen t segs) ∧
    (getPack s.packs (choosePack t s) = none ∨
      ∃ segs, getPack s.packs (choosePack t s) = some segs ∧ segsLen t segs < s.target) := by
  obtain ⟨h1, h2, h3, h4⟩ := choosePackGo_spec t s.packs s.target (s.packs.length + 1) s.cur
  refine ⟨h1, h3, h4 (Nat.lt_of_le_of_ne h2 fun heq => ?_)⟩
  -- out of fuel: the `length + 1` ids from `cur` on would all be ids of packs
  have := (List.nodup_range' (s := s.cur) (n := s.packs.length + 1)).length_le_of_subset
    (l₂ := s.packs.map (·.1)) fun i hi =>
      let ⟨segs, hs, _⟩ := h3 i (List.mem_range'_1.mp hi).1 (heq ▸ (List.mem_range'_1.mp hi).2)
      mem_keys_of_getPack hs
  rw [List.length_range', List.length_map] at this
  exact Nat.not_succ_le_self _ this

end Dos

namespace Dos.IO

theorem ensurePack_of_some {ps : Packs} {p : Nat} (h : getPack ps p ≠ none) : ensurePack ps p = ps := by
  unfold ensurePack
  cases hg : getPack ps p with
  | none => exact absurd hg h
  | some _ => rfl

theorem choosePack_openCur (t : Tab) (s : St) (ht : 0 < s.target) : choosePack t (openCur t s) = choosePack t s := by
  -- the search starts at the pack just opened, which is empty or was below the target
  refine choosePackGo_below _ (getPack_ensurePack s.packs (choosePack t s)) ?_
  rcases (choosePack_spec t s).2.2 with hn | ⟨segs, hs, hlt⟩
  · rw [hn]; exact ht
  · rw [hs]; exact hlt

theorem openCur_openCur (t : Tab) (s : St) (ht : 0 < s.target) : openCur t (openCur t s) = openCur t s := by
  have h1 := choosePack_openCur t s ht
  have h2 : ensurePack (ensurePack s.packs (choosePack t s)) (choosePack t s) = ensurePack s.packs (choosePack t s) :=
    ensurePack_of_some (by rw [getPack_ensurePack]; exact Option.some_ne_none _)
  unfold openCur at h1 ⊢
  simp only [h1, h2]

theorem writeObj_openCur (t : Tab) (s : St) (c : Nat) (z : Bool) (ht : 0 < s.target) :
    writeObj t (openCur t s) c z = writeObj t s c z := by
  have h1 := choosePack_openCur t s ht
  unfold writeObj
  simp only [h1]
  simp only [openCur, getPack_ensurePack, setPack_ensurePack, Option.getD_some]

theorem addPacked_eq_foldl (t : Tab) (s : St) (cs : List Nat) (z nh : Bool) (ht : 0 < s.target) (hcs : cs ≠ []) :
    addPacked t s cs z nh = cs.foldl (addPackedStep t z nh) s := by
  cases cs with
  | nil => exact absurd rfl hcs
  | cons c cs =>
    simp only [addPacked, List.foldl_cons, addPackedStep, openCur_openCur t s ht]

theorem writeAll_openCur (t : Tab) (s : St) (l : List (Nat × Bool)) (ht : 0 < s.target) (hl : l ≠ []) :
    writeAll t (openCur t s) l = writeAll t s l := by
  cases l with
  | nil => exact absurd rfl hl
  | cons cz l =>
    obtain ⟨c, z⟩ := cz
    simp only [writeAll, writeObj_openCur t s c z ht]

end Dos.IO
