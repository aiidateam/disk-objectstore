/-
C07 for the streaming decompresser (`decomp_refines_ref`, `decomp_reads_within`), for every decoder satisfying the contract.

`CInv s c` is the invariant of the compressed mode, `c` the number of bytes of `e` the decoder has consumed; `Comp s` hides
`c`; `Good s p` is `Comp` at position `p`, or proxied to the loose copy `⟨b, p⟩`; `AsRef p cmd r` says that the result `r` of
`cmd` is the reference's at `p`.  Both theorems follow from `step_good`, the statement about one command.
-/
import Dos.Proofs.StreamPacked

namespace Dos.Stream

namespace DecompProof

variable {σ : Type} {dc : Decoder σ} {e b : Bytes}

variable (V : dc.Valid e b) (lazy : Option Bytes)

structure CInv (s : Decomp σ) (c : Nat) : Prop where
  loose : s.loose = none
  R : V.R s.d c (s.pos + s.buf.length)
  wf : s.cs.WF e
  cpos : s.cs.pos = c + (dc.tail s.d).length
  tail : Piece e c (dc.tail s.d)
  buf : Piece b s.pos s.buf
  chunk : 0 < s.chunk
  fuel : e.length < s.fuel ∧ b.length < s.fuel
  lazy_eq : s.lazy = lazy

variable {V lazy}

theorem fillStep_spec {s : Decomp σ} {c : Nat} (h : CInv V lazy s c) {size : Nat} (hsize : 0 < size) :
    ∃ s' stop c', fillStep dc s size = some (s', stop) ∧ CInv V lazy s' c' ∧ s'.pos = s.pos ∧
      (stop = true → s'.pos + s'.buf.length = b.length) ∧
      (stop = false → size ≤ s'.buf.length ∨ c < c') := by
  unfold fillStep
  dsimp only
  -- of the number of bytes asked for, only this matters: if none are asked for, the tail is not empty
  have htr : s.chunk - (dc.tail s.d).length = 0 → 0 < (dc.tail s.d).length := fun h0 =>
    Nat.lt_of_lt_of_le h.chunk (Nat.le_of_sub_eq_zero h0)
  generalize s.chunk - (dc.tail s.d).length = toRead at htr ⊢
  obtain ⟨cs', hread, hwf', hpos'⟩ := packed_read h.wf toRead
  -- a short read (`hn`) means the window is exhausted
  have hn := (slice_length_le (h.wf.len_eq ▸ h.wf.pos_le) toRead).2.2
  have hnext : Piece e (c + (dc.tail s.d).length) (slice e s.cs.pos toRead) := h.cpos ▸ Piece.of_slice _
  generalize slice e s.cs.pos toRead = next at hread hpos' hn hnext
  rcases hfd : dc.feed s.d (dc.tail s.d ++ next) size with ⟨d', out⟩
  obtain ⟨c', hR', hout, htail', hadd, hfull, hend⟩ := V.feed_piece h.R (h.tail.append hnext) hsize hfd
  simp only [hread, hfd]
  rw [List.length_append] at hadd
  rw [Nat.add_assoc, ← List.length_append] at hR' hend
  have hinv : CInv V lazy { s with cs := cs', d := d', buf := s.buf ++ out } c' :=
    { h with
      R := hR', wf := hwf', tail := htail', buf := h.buf.append hout
      cpos := by rw [hpos', h.cpos, hadd, Nat.add_assoc] }
  simp only [Bool.and_eq_true, bne_iff_ne, ne_eq, List.isEmpty_iff_length_eq_zero]
  by_cases hstop : (¬toRead = 0 ∧ next.length = 0) ∧ (dc.tail d').length = 0
  · rw [if_pos hstop]
    obtain ⟨⟨h1, h2⟩, h3⟩ := hstop
    -- something was asked for and nothing came: the window is exhausted; nothing is left over: so is `e`
    have hce : c' = e.length := by
      rw [← hn (h2 ▸ Nat.pos_of_ne_zero h1), h2, h.cpos]
      rw [h2, h3] at hadd
      exact hadd
    rw [if_pos (hend hce).1]
    exact ⟨_, true, c', rfl, hinv, rfl, fun _ => (hend hce).2, nofun⟩
  · rw [if_neg hstop]
    refine ⟨_, false, c', rfl, hinv, rfl, nofun, fun _ => ?_⟩
    rcases Nat.lt_or_ge out.length size with hlt | hge
    · -- the decoder took all it was offered, and it was offered something
      have ht := List.length_eq_zero_iff.2 (hfull hlt)
      have : 0 < (dc.tail s.d).length + next.length := by
        rcases Nat.eq_zero_or_pos toRead with h0 | h0
        · exact Nat.lt_of_lt_of_le (htr h0) (Nat.le_add_right ..)
        · exact Nat.lt_of_lt_of_le (Nat.pos_of_ne_zero fun hz => hstop ⟨⟨Nat.ne_of_gt h0, hz⟩, ht⟩)
            (Nat.le_add_left ..)
      rw [ht, Nat.add_zero] at hadd
      exact Or.inr (hadd ▸ Nat.lt_add_of_pos_right this)
    · exact Or.inl (Nat.le_trans hge (by rw [List.length_append]; exact Nat.le_add_left ..))

/-- the variant of the three loops (`fill`, `readAllGo`, `skipTo`): progress pays for the unit of fuel -/
theorem fuel_step {n p p' f : Nat} (h : n + 1 ≤ p + (f + 1)) (hp : p < p') : n + 1 ≤ p' + f := by omega

theorem fill_done (size f : Nat) (s : Decomp σ) (h : size ≤ s.buf.length) : fill dc size f s = some s := by
  cases f with
  | zero => rfl
  | succ f => rw [fill, if_neg (Nat.not_lt.2 h)]

theorem fill_spec {size : Nat} (hsize : 0 < size) (f : Nat) {s : Decomp σ} {c : Nat} (h : CInv V lazy s c)
    (hf : e.length + 1 ≤ c + f) :
    ∃ s' c', fill dc size f s = some s' ∧ CInv V lazy s' c' ∧ s'.pos = s.pos ∧
      (size ≤ s'.buf.length ∨ s'.pos + s'.buf.length = b.length) := by
  induction f generalizing s c with
  | zero => exact absurd (V.bounds _ _ _ h.R).1 (Nat.not_le.2 hf)
  | succ f ih =>
    by_cases hlt : s.buf.length < size
    · obtain ⟨s', stop, c', hfs, hinv', hp, hst, hns⟩ := fillStep_spec h hsize
      rw [fill, if_pos hlt, hfs]
      cases stop with
      | true => exact ⟨s', c', rfl, hinv', hp, Or.inr (hst rfl)⟩
      | false =>
        rcases hns rfl with h1 | h1
        · exact ⟨s', c', fill_done size f s' h1, hinv', hp, Or.inl h1⟩
        · obtain ⟨s'', c'', h2, h3, h4, h5⟩ := ih hinv' (fuel_step hf h1)
          exact ⟨s'', c'', h2, h3, h4.trans hp, h5⟩
    · exact ⟨s, c, fill_done size _ s (Nat.not_lt.1 hlt), h, rfl, Or.inl (Nat.not_lt.1 hlt)⟩

variable (V lazy) in
def Comp (s : Decomp σ) : Prop := ∃ c, CInv V lazy s c

theorem Comp.pos_le {s : Decomp σ} (h : Comp V lazy s) : s.pos ≤ b.length :=
  h.elim fun _ h => Nat.le_trans (Nat.le_add_right ..) (V.bounds _ _ _ h.R).2

theorem Comp.loose {s : Decomp σ} (h : Comp V lazy s) : s.loose = none := h.elim fun _ h => h.loose

theorem Comp.fuel {s : Decomp σ} (h : Comp V lazy s) : b.length + 1 ≤ s.pos + s.fuel :=
  h.elim fun _ h => Nat.le_trans h.fuel.2 (Nat.le_add_left ..)

theorem readSome_spec {s : Decomp σ} (h : Comp V lazy s) {size : Nat} (hsize : 0 < size) :
    ∃ s', readSome dc s size = (s', .data (slice b s.pos size)) ∧ Comp V lazy s' ∧
      s'.pos = s.pos + (slice b s.pos size).length := by
  obtain ⟨c, h⟩ := h
  obtain ⟨s', c', hfill, hinv, hp, hdone⟩ := fill_spec hsize s.fuel h (Nat.le_trans h.fuel.1 (Nat.le_add_left ..))
  have htake := hinv.buf.take_eq size hdone
  unfold readSome
  simp only [hfill, htake, hp]
  refine ⟨_, rfl, ⟨c', { hinv with R := ?_, buf := ?_ }⟩, rfl⟩
  · show V.R s'.d c' (s.pos + (slice b s.pos size).length + (s'.buf.drop size).length)
    rw [← hp, ← htake, Nat.add_assoc, ← List.length_append, List.take_append_drop]
    exact hinv.R
  · show Piece b (s.pos + (slice b s.pos size).length) (s'.buf.drop size)
    rw [← hp, ← htake]
    exact hinv.buf.drop size

theorem readAllGo_spec (f : Nat) {s : Decomp σ} (acc : Bytes) (h : Comp V lazy s) (hfu : b.length + 1 ≤ s.pos + f) :
    ∃ s', readAllGo dc f s acc = (s', .data (acc ++ b.drop s.pos)) ∧ Comp V lazy s' ∧ s'.pos = b.length := by
  induction f generalizing s acc with
  | zero => exact absurd h.pos_le (Nat.not_le.2 hfu)
  | succ f ih =>
    have hchunk : 0 < s.chunk := h.elim fun _ h => h.chunk
    obtain ⟨s', hrs, h', hpos⟩ := readSome_spec h hchunk
    rw [readAllGo, hrs]
    simp only [List.isEmpty_iff_length_eq_zero]
    by_cases h0 : (slice b s.pos s.chunk).length = 0
    · rw [if_pos h0]
      have hend := slice_nil_end h.pos_le hchunk h0
      exact ⟨s', by rw [List.drop_eq_nil_of_le (Nat.le_of_eq hend.symm), List.append_nil], h',
        by rw [hpos, h0, hend, Nat.add_zero]⟩
    · rw [if_neg h0]
      have hprog : s.pos < s'.pos := hpos ▸ Nat.lt_add_of_pos_right (Nat.pos_of_ne_zero h0)
      obtain ⟨s'', h1, h2, h3⟩ := ih (acc ++ slice b s.pos s.chunk) h' (fuel_step hfu hprog)
      exact ⟨s'', by rw [h1, hpos, List.append_assoc, slice_append_drop], h2, h3⟩

theorem reset_spec {s : Decomp σ} (h : Comp V lazy s) :
    ∃ s', Decomp.reset dc s = (s', .pos 0) ∧ Comp V lazy s' ∧ s'.pos = 0 := by
  obtain ⟨c, h⟩ := h
  obtain ⟨p', hseek, hwf, hpos⟩ := packed_rewind h.wf
  unfold Decomp.reset
  simp only [hseek]
  exact ⟨_, rfl, ⟨0, { h with
    R := V.init_R, wf := hwf, buf := Piece.nil
    tail := V.init_tail.symm ▸ Piece.nil
    cpos := by rw [V.init_tail]; exact hpos }⟩, rfl⟩

theorem skipTo_spec (target f : Nat) {s : Decomp σ} (h : Comp V lazy s) (hpt : s.pos ≤ target)
    (hfu : b.length + 1 ≤ s.pos + f) :
    ∃ s', skipTo dc target f s = (s', .pos s'.pos) ∧ Comp V lazy s' ∧ s'.pos = min target b.length := by
  induction f generalizing s with
  | zero => exact absurd h.pos_le (Nat.not_le.2 hfu)
  | succ f ih =>
    have hple := h.pos_le
    rw [skipTo]
    by_cases hlt : s.pos < target
    · -- the size of the step matters only in that it is positive and does not overshoot
      have hk : 0 < min 262144 (target - s.pos) ∧ s.pos + min 262144 (target - s.pos) ≤ target :=
        ⟨Nat.lt_min.2 ⟨by decide, Nat.sub_pos_of_lt hlt⟩, Nat.add_le_of_le_sub' hpt (Nat.min_le_right ..)⟩
      generalize min 262144 (target - s.pos) = size at hk
      obtain ⟨s', hrs, h', hpos⟩ := readSome_spec h hk.1
      have hl1 := (slice_length_le hple size).1
      rw [if_pos hlt, hrs]
      simp only [List.isEmpty_iff_length_eq_zero]
      by_cases h0 : (slice b s.pos size).length = 0
      · -- nothing came: the end of `b`, short of the target
        rw [if_pos h0]
        have hend := slice_nil_end hple hk.1 h0
        exact ⟨s', rfl, h', by rw [hpos, h0, Nat.min_eq_right (hend ▸ Nat.le_of_lt hlt)]; exact hend⟩
      · rw [if_neg h0]
        have hprog : s.pos < s'.pos := hpos ▸ Nat.lt_add_of_pos_right (Nat.pos_of_ne_zero h0)
        have hle : s'.pos ≤ target := hpos ▸ Nat.le_trans (Nat.add_le_add_left hl1 _) hk.2
        exact ih h' hle (fuel_step hfu hprog)
    · rw [if_neg hlt, Nat.le_antisymm (Nat.not_lt.1 hlt) hpt]
      exact ⟨s, rfl, h, (Nat.min_eq_left hple).symm⟩

variable (V lazy) in
def Good (s : Decomp σ) (p : Nat) : Prop := (Comp V lazy s ∧ s.pos = p) ∨ s.loose = some ⟨b, p⟩

variable (V lazy) in
/-- `r` is the reference's answer to `cmd` at position `p`, with a good state at the reference's new position -/
def AsRef (p : Nat) (cmd : Cmd) (r : Decomp σ × Out) : Prop :=
  r.2 = (Ref.step ⟨b, p⟩ cmd).2 ∧ Good V lazy r.1 (Ref.step ⟨b, p⟩ cmd).1.pos

variable (V lazy) in
/-- what holds of the result `r` of every command at position `p`, and of an in-range one -/
def StepOk (p : Nat) (cmd : Cmd) (r : Decomp σ × Out) : Prop :=
  OutOk b r.2 ∧ (∃ p', Good V lazy r.1 p') ∧
    (cmd.inRange b.length p = true → (lazy = none → cmd.isWhence2 = false) → AsRef V lazy p cmd r)

theorem AsRef.ok {p : Nat} {cmd : Cmd} {r : Decomp σ × Out} (h : AsRef V lazy p cmd r) : StepOk V lazy p cmd r :=
  ⟨h.1 ▸ ref_out_ok ⟨b, p⟩ cmd, ⟨_, h.2⟩, fun _ _ => h⟩

theorem StepOk.of_not {p p' : Nat} {cmd : Cmd} {r : Decomp σ × Out} (ho : OutOk b r.2) (hg : Good V lazy r.1 p')
    (hn : ¬ (cmd.inRange b.length p = true ∧ (lazy = none → cmd.isWhence2 = false))) : StepOk V lazy p cmd r :=
  ⟨ho, ⟨p', hg⟩, fun h1 h2 => absurd ⟨h1, h2⟩ hn⟩

theorem read_comp {s : Decomp σ} (h : Comp V lazy s) (n : Int) : AsRef V lazy s.pos (.read n) (s.read dc n) := by
  unfold AsRef Decomp.read Ref.step
  simp only [h.loose]
  by_cases hn : n < 0
  · obtain ⟨s', h1, h2, h3⟩ := readAllGo_spec s.fuel [] h h.fuel
    rw [if_pos hn, if_pos hn, h1, slice_all b s.pos _ (Nat.le_of_eq (Nat.add_sub_cancel' h.pos_le).symm),
      List.length_drop, Nat.add_sub_cancel' h.pos_le]
    exact ⟨rfl, Or.inl ⟨h2, h3⟩⟩
  · rw [if_neg hn, if_neg hn]
    by_cases h0 : n = 0
    · rw [if_pos h0, h0]
      exact ⟨rfl, Or.inl ⟨h, rfl⟩⟩
    · obtain ⟨s', h1, h2, h3⟩ :=
        readSome_spec h (Int.lt_toNat.2 (Int.lt_iff_le_and_ne.2 ⟨Int.not_lt.1 hn, Ne.symm h0⟩))
      rw [if_neg h0, h1]
      exact ⟨rfl, Or.inl ⟨h2, h3⟩⟩

/-- `Decomp.seek` switches to the loose copy.  This and `seekComp` are parts of the body of `Decomp.seek` under names, word
    for word: `seek_noswitch` and `seek_switch` find them there by unfolding. -/
def shouldU (pos : Nat) (t : Int) (w : Nat) : Bool :=
  decide (w = 2) || decide (w = 1) && decide (t < 0) || decide (w = 1) && decide (t < Int.ofNat pos)

/-- `Decomp.seek` to the absolute position `target`, where it stays in the compressed mode -/
def seekComp (dc : Decoder σ) (s : Decomp σ) (target : Int) : Decomp σ × Out :=
  if target < 0 then (s, .err .value)
  else if target = 0 then Decomp.reset dc s
  else
    if target.toNat < s.pos then
      match Decomp.reset dc s with
      | (s2, .pos _) => skipTo dc target.toNat s2.fuel s2
      | (s2, o) => (s2, o)
    else skipTo dc target.toNat s.fuel s

theorem seek_noswitch {s : Decomp σ} {t : Int} {w : Nat} (hl : s.loose = none) (hw : w ≤ 2)
    (hns : s.lazy = none ∨ shouldU s.pos t w = false) :
    Decomp.seek dc s t w =
      if w = 2 then (s, .err .notImplemented) else seekComp dc s (if w = 1 then Int.ofNat s.pos + t else t) := by
  obtain ⟨cs, d, buf, pos, lazy, loose, chunk, fuel⟩ := s
  subst hl
  unfold Decomp.seek
  rw [if_neg (Nat.not_lt.2 hw)]
  rcases hns with h | h
  · subst h; rfl
  · cases lazy with
    | none => rfl
    | some b' =>
      simp only [shouldU] at h
      dsimp only
      rw [h]
      rfl

theorem seek_switch {s : Decomp σ} {t : Int} {w : Nat} {b' : Bytes} (hl : s.loose = none) (hw : w ≤ 2)
    (hlz : s.lazy = some b') (hsu : shouldU s.pos t w = true) :
    Decomp.seek dc s t w =
      ({ s with loose := some (Ref.step ⟨b', s.pos⟩ (.seek t w)).1 }, (Ref.step ⟨b', s.pos⟩ (.seek t w)).2) := by
  obtain ⟨cs, d, buf, pos, lazy, loose, chunk, fuel⟩ := s
  subst hl hlz
  simp only [shouldU] at hsu
  simp only [Decomp.seek, Nat.not_lt.2 hw, if_false, hsu, if_true]

/-- once the loose copy is open, every command is passed on to it -/
theorem step_loose {s : Decomp σ} {r : Ref} (hl : s.loose = some r) (cmd : Cmd) :
    s.step dc cmd = ({ s with loose := some (r.step cmd).1 }, (r.step cmd).2) := by
  obtain ⟨cs, d, buf, pos, lazy, loose, chunk, fuel⟩ := s
  subst hl
  cases cmd with
  | read n => simp only [Decomp.step, Decomp.read]
  | tell => simp only [Decomp.step, Decomp.tell, Ref.step]
  | seek t w =>
    by_cases hw : w > 2
    · rw [ref_seek, if_neg (fun h => absurd h.1 (Nat.not_le.2 hw))]
      simp only [Decomp.step, Decomp.seek, hw, if_true]
    · simp only [Decomp.step, Decomp.seek, hw, if_false]

theorem seekComp_ok {s : Decomp σ} (h : Comp V lazy s) {tgt : Int} (h0 : 0 ≤ tgt) :
    ∃ s', seekComp dc s tgt = (s', .pos s'.pos) ∧ Comp V lazy s' ∧ s'.pos = min tgt.toNat b.length := by
  obtain ⟨s0, hr1, hr2, hr3⟩ := reset_spec h
  rw [seekComp, if_neg (Int.not_lt.2 h0), hr1]
  by_cases hz : tgt = 0
  · rw [if_pos hz]
    exact ⟨s0, by rw [hr3]; rfl, hr2, by rw [hr3, hz]; exact (Nat.zero_min _).symm⟩
  · rw [if_neg hz]
    by_cases hlt : tgt.toNat < s.pos
    · rw [if_pos hlt]
      exact skipTo_spec tgt.toNat s0.fuel hr2 (hr3 ▸ Nat.zero_le _) hr2.fuel
    · rw [if_neg hlt]
      exact skipTo_spec tgt.toNat s.fuel h (Nat.not_lt.1 hlt) h.fuel

theorem seek_comp (hl : lazy = none ∨ lazy = some b) {s : Decomp σ} (h : Comp V lazy s) (t : Int) (w : Nat) :
    StepOk V lazy s.pos (.seek t w) (s.seek dc t w) := by
  -- the seek is rejected, answered by the loose copy, or moves to the target clipped to the length
  have hlazy : s.lazy = lazy := h.elim fun _ h => h.lazy_eq
  have hir := inRange_seek_iff b.length s.pos t w
  have hs : Good V lazy s s.pos := Or.inl ⟨h, rfl⟩
  by_cases hgt : w > 2
  · unfold Decomp.seek
    rw [if_pos hgt]
    exact .of_not (.err ..) hs fun hh => Nat.not_le.2 hgt (hir.1 hh.1).1
  have hw : w ≤ 2 := Nat.not_lt.1 hgt
  by_cases hsw : lazy = some b ∧ shouldU s.pos t w = true
  · rw [seek_switch h.loose hw (hlazy.trans hsw.1) hsw.2]
    exact AsRef.ok ⟨rfl, Or.inr (congrArg some (ref_step_eta b s.pos _))⟩
  have hns : lazy = none ∨ shouldU s.pos t w = false :=
    hl.imp_right fun h1 => Bool.eq_false_iff.2 fun hsu => hsw ⟨h1, hsu⟩
  rw [seek_noswitch h.loose hw (hlazy ▸ hns)]
  by_cases hw2 : w = 2
  · subst hw2
    -- a seek relative to the end always wants the switch (`hsu`): not switching, there is no loose copy
    have hsu : shouldU s.pos t 2 = true := rfl
    have hno : lazy = none := hns.resolve_right fun hf => Bool.noConfusion (hsu.symm.trans hf)
    exact .of_not (.err ..) hs fun hh => Bool.noConfusion (hh.2 hno)
  rw [if_neg hw2]
  have htg : seekTarget b.length s.pos t w = if w = 1 then Int.ofNat s.pos + t else t := by
    rw [seekTarget, if_neg hw2]
  rw [htg] at hir
  by_cases hneg : (if w = 1 then Int.ofNat s.pos + t else t) < 0
  · rw [seekComp, if_pos hneg]
    exact .of_not (.err ..) hs fun hh => Int.not_le.2 hneg (hir.1 hh.1).2.1
  have h0 := Int.not_lt.1 hneg
  obtain ⟨s', h1, h2, h3⟩ := seekComp_ok h h0
  rw [h1]
  refine ⟨.pos .., ⟨_, Or.inl ⟨h2, rfl⟩⟩, fun hr _ => ?_⟩
  -- in range nothing is clipped
  rw [Nat.min_eq_left (Int.toNat_le.2 (hir.1 hr).2.2)] at h3
  rw [AsRef, ref_seek_in ⟨b, s.pos⟩ t w hr, htg, h3, Int.toNat_of_nonneg h0]
  exact ⟨rfl, Or.inl ⟨h2, h3⟩⟩

theorem step_good (hl : lazy = none ∨ lazy = some b) {s : Decomp σ} {p : Nat} (h : Good V lazy s p) (cmd : Cmd) :
    StepOk V lazy p cmd (s.step dc cmd) := by
  rcases h with ⟨h, rfl⟩ | h
  · cases cmd with
    | read n => exact (read_comp h n).ok
    | tell =>
      simp only [Decomp.step, Decomp.tell, h.loose]
      exact AsRef.ok ⟨rfl, Or.inl ⟨h, rfl⟩⟩
    | seek t w => exact seek_comp hl h t w
  · rw [step_loose h cmd]
    exact AsRef.ok ⟨rfl, Or.inr (congrArg some (ref_step_eta ..))⟩

theorem init_good (V : dc.Valid e b) (lazy : Option Bytes) (pre post : Bytes) {chunk fuel : Nat} (hc : 0 < chunk)
    (hf : e.length + b.length + 4 ≤ fuel) :
    Good V lazy (Decomp.init dc (pre ++ e ++ post) pre.length e.length lazy chunk fuel) 0 := by
  -- `hf` is the bound that Dos/Stream.lean quotes for `Decomp.fuel` (the driver passes `+ 8`).  The loops need less:
  -- a pass of `fill` consumes a byte of `e`, a pass of `readAllGo` or `skipTo` produces one of `b` (`fuel_step`).
  have hfu : e.length < fuel ∧ b.length < fuel := by omega
  exact Or.inl ⟨⟨0, {
    loose := rfl, R := V.init_R, wf := packed_init_wf pre e post, buf := Piece.nil, chunk := hc, fuel := hfu, lazy_eq := rfl
    tail := show Piece e 0 (dc.tail dc.init) from V.init_tail.symm ▸ Piece.nil
    cpos := show 0 = 0 + (dc.tail dc.init).length by rw [V.init_tail]; rfl }⟩, rfl⟩

theorem run_sim (hl : lazy = none ∨ lazy = some b) (prog : List Cmd) {s : Decomp σ} {p : Nat} (h : Good V lazy s p)
    (hr : inRangeProg ⟨b, p⟩ prog = true) (hw : lazy = none → ∀ c ∈ prog, c.isWhence2 = false) :
    runDecomp dc s prog = runRef ⟨b, p⟩ prog := by
  induction prog generalizing s p with
  | nil => rfl
  | cons cmd cs ih =>
    obtain ⟨hr1, hr2⟩ := Bool.and_eq_true_iff.1 hr
    obtain ⟨h1, h2⟩ := (step_good hl h cmd).2.2 hr1 fun hn => hw hn cmd (List.mem_cons_self ..)
    rw [ref_step_eta] at hr2
    show (s.step dc cmd).2 :: runDecomp dc (s.step dc cmd).1 cs =
      (Ref.step ⟨b, p⟩ cmd).2 :: runRef (Ref.step ⟨b, p⟩ cmd).1 cs
    rw [h1, ih h2 hr2 fun hn c hc => hw hn c (List.mem_cons_of_mem _ hc), ← ref_step_eta]

theorem run_safe (hl : lazy = none ∨ lazy = some b) (prog : List Cmd) {s : Decomp σ} {p : Nat} (h : Good V lazy s p) :
    ∀ o ∈ runDecomp dc s prog, OutOk b o := by
  induction prog generalizing s p with
  | nil => exact nofun
  | cons cmd cs ih =>
    obtain ⟨h1, ⟨p', h2⟩, _⟩ := step_good hl h cmd
    exact List.forall_mem_cons.2 ⟨h1, ih h2⟩

end DecompProof

/-- in-range programs on a compressed object (with the lazily materialised loose copy available, or without
    seeks relative to the end) behave exactly like `io.BytesIO` over the content -/
theorem decomp_refines_ref {σ : Type} (dc : Decoder σ) (e b pre post : Bytes) (V : dc.Valid e b)
    (chunk fuel : Nat) (hc : 0 < chunk) (hf : e.length + b.length + 4 ≤ fuel)
    (lazy : Option Bytes) (hl : lazy = none ∨ lazy = some b)
    (prog : List Cmd) (hr : inRangeProg ⟨b, 0⟩ prog = true)
    (hw : lazy = none → ∀ c ∈ prog, c.isWhence2 = false) :
    runDecomp dc (Decomp.init dc (pre ++ e ++ post) pre.length e.length lazy chunk fuel) prog = runRef ⟨b, 0⟩ prog :=
  DecompProof.run_sim hl prog (DecompProof.init_good V lazy pre post hc hf) hr hw

/-- for every program, out-of-range seeks included -/
theorem decomp_reads_within {σ : Type} (dc : Decoder σ) (e b pre post : Bytes) (V : dc.Valid e b)
    (chunk fuel : Nat) (hc : 0 < chunk) (hf : e.length + b.length + 4 ≤ fuel)
    (lazy : Option Bytes) (hl : lazy = none ∨ lazy = some b) (prog : List Cmd) :
    ∀ o ∈ runDecomp dc (Decomp.init dc (pre ++ e ++ post) pre.length e.length lazy chunk fuel) prog,
      (∀ out, o = .data out → ∃ q k, out = slice b q k) ∧ (∀ n, o = .pos n → 0 ≤ n) :=
  DecompProof.run_safe hl prog (DecompProof.init_good V lazy pre post hc hf)

end Dos.Stream
