import Dos.IOSpec
import Dos.Proofs.Read

namespace Dos.IO

theorem getX_setX (ps : List (Nat × XPack)) (p q : Nat) (v : XPack) :
    getX (setX ps p v) q = if q = p then some v else getX ps q := by
  fun_induction setX ps p v <;> grind [getX]

theorem getX_eraseX (ps : List (Nat × XPack)) (p q : Nat) :
    getX (eraseX ps p) q = if q = p then none else getX ps q := by
  fun_induction eraseX ps p <;> grind [getX]

theorem getX_updX (ps : List (Nat × XPack)) (p q : Nat) (f : XPack → XPack) :
    getX (updX ps p f) q = if q = p then (getX ps p).map f else getX ps q := by
  unfold updX
  split
  · next pk hg => rw [getX_setX, hg, Option.map_some]
  · next hg =>
    split
    · next h => rw [h, hg, Option.map_none]
    · rfl

theorem getX_updX_eq_none {ps : List (Nat × XPack)} {p q : Nat} {f : XPack → XPack} :
    getX (updX ps p f) q = none ↔ getX ps q = none := by
  rw [getX_updX]
  split
  · next h => rw [h, Option.map_eq_none_iff]
  · exact Iff.rfl

theorem setX_setX (ps : List (Nat × XPack)) (p : Nat) (v w : XPack) : setX (setX ps p v) p w = setX ps p w := by
  induction ps with
  | nil => simp [setX]
  | cons e rest ih => by_cases h : e.1 = p <;> simp [setX, h, ih]

theorem updX_setX (ps : List (Nat × XPack)) (p : Nat) (v : XPack) (f : XPack → XPack) :
    updX (setX ps p v) p f = setX ps p (f v) := by
  simp [updX, getX_setX, setX_setX]

theorem updX_updX (ps : List (Nat × XPack)) (p : Nat) (f g : XPack → XPack) :
    updX (updX ps p f) p g = updX ps p (fun pk => g (f pk)) := by
  cases hg : getX ps p with
  | none => simp [updX, hg]
  | some pk => simp only [updX, hg, getX_setX, if_true, setX_setX]

theorem getPack_mapX (F : Nat → XPack → List Seg) (ps : List (Nat × XPack)) (p : Nat) :
    getPack (ps.map (fun e => (e.1, F e.1 e.2))) p = (getX ps p).map (F p) := by
  induction ps with
  | nil => rfl
  | cons e rest ih => by_cases h : e.1 = p <;> simp [getPack, getX, h, ih]

def segsOf (ps : List (Nat × XPack)) : Packs := ps.map (fun e => (e.1, e.2.segs))

theorem getPack_segsOf (ps : List (Nat × XPack)) (p : Nat) : getPack (segsOf ps) p = (getX ps p).map (·.segs) :=
  getPack_mapX (fun _ pk => pk.segs) ps p

theorem segsOf_setX (ps : List (Nat × XPack)) (p : Nat) (pk : XPack) :
    segsOf (setX ps p pk) = setPack (segsOf ps) p pk.segs := by
  induction ps with
  | nil => rfl
  | cons e rest ih =>
    simp only [segsOf] at ih
    by_cases h1 : e.1 = p <;> simp [segsOf, setX, setPack, h1, ih]

theorem segsOf_updX (ps : List (Nat × XPack)) (p : Nat) (f : XPack → XPack) :
    segsOf (updX ps p f) =
      match getX ps p with
      | some pk => setPack (segsOf ps) p (f pk).segs
      | none => segsOf ps := by
  unfold updX
  cases hg : getX ps p with
  | none => rfl
  | some pk => simp only [segsOf_setX]

theorem segsOf_updX_same (ps : List (Nat × XPack)) (p : Nat) (f : XPack → XPack) (hf : ∀ pk, (f pk).segs = pk.segs) :
    segsOf (updX ps p f) = segsOf ps := by
  rw [segsOf_updX]
  cases hg : getX ps p with
  | none => rfl
  | some pk => exact setPack_same (by rw [getPack_segsOf, hg, hf]; rfl)

/-! The names in a list of pack files are those of its `segsOf`, for which `Basic.lean` has the facts. -/

theorem keys_segsOf (ps : List (Nat × XPack)) : (segsOf ps).map (·.1) = ps.map (·.1) :=
  List.map_map

theorem getX_none_iff {ps : List (Nat × XPack)} {p : Nat} : getX ps p = none ↔ p ∉ ps.map (·.1) := by
  rw [← keys_segsOf, ← getPack_eq_none_iff, getPack_segsOf, Option.map_eq_none_iff]

theorem keys_setX (ps : List (Nat × XPack)) (p : Nat) (v : XPack) :
    (setX ps p v).map (·.1) = if p ∈ ps.map (·.1) then ps.map (·.1) else ps.map (·.1) ++ [p] := by
  rw [← keys_segsOf, segsOf_setX, keys_setPack, keys_segsOf]

theorem nodup_keys_setX {ps : List (Nat × XPack)} (p : Nat) (v : XPack) (h : (ps.map (·.1)).Nodup) :
    ((setX ps p v).map (·.1)).Nodup := by
  rw [← keys_segsOf, segsOf_setX]
  exact nodup_keys_setPack p _ (keys_segsOf ps ▸ h)

theorem keys_updX (ps : List (Nat × XPack)) (p : Nat) (f : XPack → XPack) : (updX ps p f).map (·.1) = ps.map (·.1) := by
  unfold updX
  cases h : getX ps p with
  | none => rfl
  | some v =>
    have hp : p ∈ ps.map (·.1) := Decidable.by_contra fun hn => nomatch h.symm.trans (getX_none_iff.mpr hn)
    rw [keys_setX, if_pos hp]

theorem keys_eraseX_sublist (ps : List (Nat × XPack)) (p : Nat) : ((eraseX ps p).map (·.1)).Sublist (ps.map (·.1)) := by
  induction ps with
  | nil => exact .slnil
  | cons e rest ih =>
    simp only [eraseX]
    split
    · exact List.Sublist.cons _ ih
    · exact List.Sublist.cons_cons _ ih

/-- the `XPack` of a quiescent pack file, as `ofSt` makes them -/
def Repack.full (segs : List Seg) : XPack := ⟨segs, segs.length, segs.length⟩

open Repack (full)

theorem getX_ofSt (s : St) (q : Nat) : getX (ofSt s).packs q = (getPack s.packs q).map full := by
  simp only [ofSt]
  induction s.packs with
  | nil => rfl
  | cons e rest ih => by_cases h : e.1 = q <;> simp [getX, getPack, h, ih, full]

theorem eraseX_ofSt (b : St) (p : Nat) :
    eraseX (ofSt b).packs p = (ofSt { b with packs := erasePack b.packs p }).packs := by
  simp only [ofSt]
  induction b.packs with
  | nil => rfl
  | cons e rest ih => by_cases h : e.1 = p <;> simp [eraseX, erasePack, h, ih]

theorem setX_ofSt (b : St) (p : Nat) (g : List Seg) :
    setX (ofSt b).packs p (full g) = (ofSt { b with packs := setPack b.packs p g }).packs := by
  simp only [ofSt]
  induction b.packs with
  | nil => rfl
  | cons e rest ih =>
    by_cases h : e.1 = p
    · simp [setX, setPack, h, full]
    · simp [setX, setPack, h, ih]

theorem keys_ofSt (s : St) : (ofSt s).packs.map (·.1) = s.packs.map (·.1) := by
  simp [ofSt, List.map_map, Function.comp_def]

theorem looseKeys_ofSt (s : St) : (ofSt s).loose.map (·.1) = s.loose.map (·.1) := by
  simp [ofSt, List.map_map, Function.comp_def]

theorem toSt_ofSt (s : St) : toSt (ofSt s) = s := by
  cases s
  simp [toSt, ofSt, List.map_map, Function.comp_def]

theorem segsOf_ofSt (s : St) : segsOf (ofSt s).packs = s.packs := by
  simp [segsOf, ofSt, List.map_map, Function.comp_def]

/-! `exec_eq`: each field of `exec x a` as a function of `a` and of at most two fields of `x`.  After `rw [exec_eq]` a question
about one field is a question about a function whose clauses contain no `match` (`execLoose` at `renameLoose` apart), so that
`cases a <;> rfl` answers it for all 27 actions. -/

def openPacks (ps : List (Nat × XPack)) (p : Nat) : List (Nat × XPack) :=
  match getX ps p with
  | some _ => ps
  | none => setX ps p { segs := [], flushed := 0, synced := 0 }

theorem getX_openPacks (ps : List (Nat × XPack)) (p q : Nat) :
    getX (openPacks ps p) q = if q = p then some ((getX ps p).getD ⟨[], 0, 0⟩) else getX ps q := by
  unfold openPacks
  split
  · next pk hg =>
    split
    · next h => rw [h, hg, Option.getD_some]
    · rfl
  · next hg => rw [getX_setX, hg, Option.getD_none]

theorem nodup_keys_openPacks {ps : List (Nat × XPack)} (p : Nat) (h : (ps.map (·.1)).Nodup) :
    ((openPacks ps p).map (·.1)).Nodup := by
  unfold openPacks
  split
  · exact h
  · exact nodup_keys_setX p _ h

theorem segsOf_openPacks (ps : List (Nat × XPack)) (p : Nat) : segsOf (openPacks ps p) = ensurePack (segsOf ps) p := by
  unfold ensurePack openPacks
  rw [getPack_segsOf]
  cases hg : getX ps p with
  | some pk => rfl
  | none => simp [segsOf_setX]

def linkPacks (ps : List (Nat × XPack)) (src dst : Nat) : List (Nat × XPack) :=
  match getX ps src with
  | some pk => setX ps dst pk
  | none => ps

def execPacks (ps : List (Nat × XPack)) : Act → List (Nat × XPack)
  | .pkOpen p => openPacks ps p
  | .pkWrite p g => updX ps p (fun pk => { pk with segs := pk.segs ++ [g] })
  | .pkFlush p | .pkClose p => updX ps p (fun pk => { pk with flushed := pk.segs.length })
  | .pkFsync p => updX ps p (fun pk => { pk with synced := pk.flushed })
  | .pkTruncate p n => updX ps p (fun pk =>
      let segs := pk.segs.take (pk.segs.length - n)
      { segs := segs, flushed := segs.length, synced := min pk.synced segs.length })
  | .pkUnlink p => eraseX ps p
  | .pkLink src dst => linkPacks ps src dst
  | _ => ps

def execLocks (locks : List Nat) : Act → List Nat
  | .lock p => p :: locks
  | .unlock p => locks.filter (· != p)
  | _ => locks

def execRows (rows : List Row) (work : Option (List Row)) : Act → List Row
  | .sqlCommit => work.getD rows
  | _ => rows

def execWork (rows : List Row) (work : Option (List Row)) : Act → Option (List Row)
  | .sqlInsert r => some (insertIgnore (work.getD rows) r)
  | .sqlDelete k => some ((work.getD rows).filter (fun r => r.key != k))
  | .sqlMove r => some ((work.getD rows).map (fun o => if o.key = r.key then { r with id := o.id } else o))
  | .sqlRepoint src dst => some ((work.getD rows).map (fun o => if o.pack = src then { o with pack := dst } else o))
  | .sqlCommit => none
  | _ => work

def execSandbox (sb : Option XFile) : Act → Option XFile
  | .sbCreate => some { cid := garbage, dur := .synced }
  | .sbWrite c => sb.map (fun _ => { cid := c, dur := .buffered })
  | .sbFlush | .sbClose => sb.map (fun f => if f.dur = .buffered then { f with dur := .flushed } else f)
  | .sbFsync => sb.map (fun f => if f.dur = .flushed then { f with dur := .synced } else f)
  | .sbRemove | .renameLoose _ => none
  | _ => sb

def execLoose (loose : List (Nat × XFile)) (sb : Option XFile) : Act → List (Nat × XFile)
  | .renameLoose k =>
    match sb with
    | some f => loose.filter (fun e => e.1 != k) ++ [(k, f)]
    | none => loose
  | .looseUnlink k => loose.filter (fun e => e.1 != k)
  | _ => loose

theorem exec_eq (x : XSt) (a : Act) :
    exec x a =
      { loose := execLoose x.loose x.sandbox a, sandbox := execSandbox x.sandbox a, packs := execPacks x.packs a,
        rows := execRows x.rows x.work a, work := execWork x.rows x.work a, locks := execLocks x.locks a,
        cur := x.cur, target := x.target } := by
  cases a with
  | renameLoose k => obtain ⟨_, sb, _, _, _, _, _, _⟩ := x; cases sb <;> rfl
  | pkOpen p => simp only [exec, execPacks, openPacks]; cases getX x.packs p <;> rfl
  | pkLink src dst => simp only [exec, execPacks, linkPacks]; cases getX x.packs src <;> rfl
  | _ => rfl

theorem exec_target (x : XSt) (a : Act) : (exec x a).target = x.target := by rw [exec_eq]

theorem exec_rows_of_ne (x : XSt) {a : Act} (h : a ≠ .sqlCommit) : (exec x a).rows = x.rows := by
  rw [exec_eq]
  exact execRows.eq_2 _ _ _ h  -- the equation of `execRows` for the actions other than `sqlCommit`

theorem exec_pkOpen (x : XSt) (p : Nat) : exec x (.pkOpen p) = { x with packs := openPacks x.packs p } :=
  exec_eq x (.pkOpen p)

theorem execAll_append (x : XSt) (a b : List Act) : execAll x (a ++ b) = execAll (execAll x a) b := by
  induction a generalizing x with
  | nil => rfl
  | cons h tl ih => exact ih _

/-- the loop `for k in l: unlink(loose k)` in closed form; every prefix of it is such a loop (`List.map_take`) -/
theorem execAll_unlinks (x : XSt) (l : List Nat) :
    execAll x (l.map .looseUnlink) = { x with loose := x.loose.filter (fun e => !l.contains e.1) } := by
  induction l generalizing x with
  | nil => exact congrArg (fun L => ({ x with loose := L } : XSt)) (List.filter_eq_self.mpr fun _ _ => rfl).symm
  | cons a l ih =>
    exact (ih _).trans (congrArg (fun L => ({ x with loose := L } : XSt)) (filter_ne_contains Prod.fst a l x.loose))

/-- how `sessionEndCleanO` writes that loop -/
theorem map_unlink_keys (rs : List Row) :
    rs.map (fun r => Act.looseUnlink r.key) = (rs.map (·.key)).map .looseUnlink :=
  List.map_map.symm

def AllP (P : XSt → Prop) (x : XSt) (acts : List Act) : Prop := ∀ k, P (execAll x (acts.take k))

section
variable {P Q : XSt → Prop} {x : XSt} {a : Act} {l l1 l2 : List Act}

theorem allP_nil (h : P x) : AllP P x [] := fun k => by rwa [List.take_nil]

theorem allP_start (h : AllP P x l) : P x := h 0

theorem allP_end (h : AllP P x l) : P (execAll x l) :=
  List.take_length (l := l) ▸ h l.length

theorem allP_cons (h0 : P x) (h : AllP P (exec x a) l) : AllP P x (a :: l)
  | 0 => h0
  | k + 1 => h k

theorem allP_single (h0 : P x) (h1 : P (exec x a)) : AllP P x [a] := allP_cons h0 (allP_nil h1)

theorem allP_append (h1 : AllP P x l1) (h2 : AllP P (execAll x l1) l2) : AllP P x (l1 ++ l2) := by
  induction l1 generalizing x with
  | nil => exact h2
  | cons a l ih => exact allP_cons (allP_start h1) (ih (fun k => h1 (k + 1)) h2)

theorem allP_mono (h : ∀ x, P x → Q x) (hp : AllP P x l) : AllP Q x l := fun k => h _ (hp k)

theorem allP_of_step {A : Act → Prop} (hstep : ∀ x a, A a → P x → P (exec x a)) (ha : ∀ a ∈ l, A a) (h0 : P x) :
    AllP P x l := by
  induction l generalizing x with
  | nil => exact allP_nil h0
  | cons a l ih =>
    exact allP_cons h0 (ih (fun b hb => ha b (List.mem_cons_of_mem _ hb)) (hstep x a (ha a List.mem_cons_self) h0))

end

theorem segOK_take_mono {t : Tab} {segs : List Seg} {r : Row} {n m : Nat} (h : n ≤ m) (hr : SegOK t (segs.take n) r) :
    SegOK t (segs.take m) r :=
  segOK_prefix (List.take_prefix_take_left h) hr

theorem readFresh_cases {t : Tab} (wf : t.WF) {img : St} (hrows : ∀ r ∈ img.rows, RowOK t img.packs r)
    (hloose : ∀ e ∈ img.loose, e.1 = e.2) (k : Nat) :
    readFresh t img k = .ok k ∨ readFresh t img k = .loud ∨
      (readFresh t img k = .missing ∧ k ∉ img.rows.map (·.key) ∧ k ∉ img.loose.map (·.1)) := by
  unfold readFresh
  cases hr : findRow img.rows k with
  | some r =>
    obtain ⟨hmem, hk⟩ := findRow_some hr
    by_cases hp : r.pack = tmpId
    · exact Or.inr (Or.inl (if_pos hp))
    · simp only [if_neg hp, readRow_of_rowOK wf (hrows r hmem), hk, true_or]
  | none =>
    cases hl : findLoose img.loose k with
    | some c => exact Or.inl (congrArg ReadRes.ok (hloose _ (findLoose_some hl)).symm)
    | none => exact Or.inr (Or.inr ⟨rfl, findRow_none_iff.mp hr, findLoose_none_iff.mp hl⟩)

theorem readFresh_loud {t : Tab} {img : St} {k : Nat} (h : readFresh t img k = .loud) :
    ∃ r ∈ img.rows, r.key = k ∧ r.pack = tmpId := by
  unfold readFresh at h
  split at h
  · next r hr =>
    split at h
    · next ht => exact ⟨r, (findRow_some hr).1, (findRow_some hr).2, ht⟩
    · split at h <;> cases h
  · split at h <;> cases h

theorem safeImg_of {t : Tab} (wf : t.WF) {img : St} {keep : List Nat} (hrows : ∀ r ∈ img.rows, RowOK t img.packs r)
    (hloose : ∀ e ∈ img.loose, e.1 = e.2) (hkeep : ∀ k ∈ keep, k ∈ img.rows.map (·.key) ∨ k ∈ img.loose.map (·.1)) :
    SafeImg t img keep := by
  constructor
  · intro k hk
    rcases readFresh_cases wf hrows hloose k with h | h | ⟨_, h1, h2⟩
    · exact Or.inl h
    · exact Or.inr h
    · exact (hkeep k hk).elim (absurd · h1) (absurd · h2)
  · intro k _
    rcases readFresh_cases wf hrows hloose k with h | h | ⟨h, _, _⟩
    · exact Or.inl h
    · exact Or.inr (Or.inr h)
    · exact Or.inr (Or.inl h)

/-- the `finally` handlers only close and release -/
theorem toSt_handlers (x : XSt) : toSt (execAll x (handlers x)) = toSt x := by
  have h1 : ∀ (L : List Nat) (y : XSt), toSt (execAll y (L.flatMap (fun p => [Act.pkClose p, .unlock p]))) = toSt y := by
    intro L y
    induction L generalizing y with
    | nil => rfl
    | cons p L ih =>
      rw [List.flatMap_cons, execAll_append, ih]
      exact congrArg (fun P => ({ toSt y with packs := P } : St)) (segsOf_updX_same y.packs p _ fun _ => rfl)
  unfold handlers
  rw [execAll_append, h1]
  cases x.sandbox <;> rfl

theorem toSt_runFault (x : XSt) (acts : List Act) (k : Nat) :
    toSt (runFault x acts k) = toSt (execAll x (acts.take k)) :=
  toSt_handlers (execAll x (acts.take k))

theorem allSafe_of_allP {t : Tab} {s : St} {acts : List Act} {keep : List Nat} {P : XSt → Prop}
    (hP : ∀ x, P x → (∀ cut, SafeImg t (crashImg x cut) keep) ∧ SafeImg t (powerImg x) keep ∧
      SafeImg t (toSt x) keep ∧ Inv t (toSt x))
    (h : AllP P (ofSt s) acts) : AllSafe t s acts keep := by
  intro k
  rw [toSt_runFault]
  exact hP _ (h k)

end Dos.IO
