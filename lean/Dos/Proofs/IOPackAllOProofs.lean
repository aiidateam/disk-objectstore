import Dos.Proofs.IOImportProofs

namespace Dos.IO

namespace Imp

theorem packAllO_step {fl : Bool} {t : Tab} {keep : List Nat} {x : XSt} {b : St} (i : Idle fl t keep x b)
    (order : List Nat) (zs : List Bool) (cl df : Bool) (hfs : fl = false → df = true) :
    AllP (GW fl t keep) x (actsPackAllO t b order zs cl df) ∧
    (order ≠ [] → Idle fl t keep (execAll x (actsPackAllO t b order zs cl df))
      (removeLoose (writeAll t b (order.zip zs)) (gone cl ((order.zip zs).map (·.1))))) := by
  rw [actsPackAllO_eq]
  split
  · next h => exact ⟨allP_nil i.good, fun h' => absurd h h'⟩
  · have h := Emits.foldl_pack (t := t) (e := (sessionEndCleanO · · cl df)) (nh := false) (s0 := b) (order.zip zs)
      Emits.init
    have := h.fin_sim (ends_sessionEndCleanO cl df hfs) i
    rw [foldl_wPackG_s _ i.inv.target_pos, List.nil_append] at this
    exact ⟨this.1, fun _ => this.2⟩

end Imp

theorem crashfault_packAllO {t : Tab} (wf : t.WF) {s : St} (inv : Inv t s) (hb : Bounded s)
    (order : List Nat) (zs : List Bool) (cl : Bool)
    (ho : ∀ k ∈ order, hasLoose s k = true ∧ hasRow s k = false) (hn : order.Nodup) (hl : zs.length = order.length)
    (doFsync : Bool) :
    CrashFaultSafe t s (actsPackAllO t s order zs cl doFsync) (keysOf s) := by
  have _ := hb
  have _ := ho
  have _ := hn
  have _ := hl
  exact crashFaultSafe_of_allP wf
      (Imp.packAllO_step (fl := true) (Imp.idle_ofSt inv) order zs cl doFsync (fun h => nomatch h)).1

theorem done_packAllO {t : Tab} {s s' : St} (inv : Inv t s) {m : Mode} {order : List Nat} {zs : List Bool} {cl : Bool}
    (h : packAll t s m order zs cl = some s') (doFsync : Bool) :
    SameDisk (toSt (execAll (ofSt s) (actsPackAllO t s order zs cl doFsync))) s' := by
  obtain ⟨_, hz, _, _, rfl⟩ := packAll_eq_some.mp h
  cases order with
  | nil => exact Imp.sameDisk_of_idle (fl := true) { Imp.idle_ofSt inv with inv := inv_set_cur inv _ } rfl
  | cons c cs =>
    have ho : c :: cs ≠ [] := List.cons_ne_nil _ _
    have i := (Imp.packAllO_step (fl := true) (Imp.idle_ofSt inv) (c :: cs) zs cl doFsync (fun h => nomatch h)).2 ho
    rw [List.map_fst_zip (Nat.le_of_eq hz.symm)] at i
    have hw : (execAll (ofSt s) (actsPackAllO t s (c :: cs) zs cl doFsync)).work = none := by
      rw [actsPackAllO_eq, if_neg ho]
      exact ((Emits.foldl_pack (t := t) (nh := false) (s0 := s) ((c :: cs).zip zs) Emits.init).work (x0 := ofSt s)
        (fun x q rs => Imp.work_sessionEndCleanO x q rs cl doFsync) rfl :)
    have hne : (c :: cs).zip zs ≠ [] := by
      cases zs with
      | nil => cases hz
      | cons _ _ => exact List.cons_ne_nil _ _
    show SameDisk _ (if cl then _ else _)
    rw [writeAll_openCur t s _ inv.target_pos hne, ← removeLoose_gone]
    exact Imp.sameDisk_of_idle i hw

end Dos.IO
