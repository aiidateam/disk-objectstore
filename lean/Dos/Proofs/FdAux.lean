/-
Descriptor accounting along the pack-writer programs.  They have one shape, a property of the action list alone: they are
runs (`Run`) of the automaton `Tr`, and runs compose (`Run.trans`).  What a run from "nothing held" gives is read off
once: the count `held` (`Run.spec`, `Run.bounded`) and, from a state that holds nothing, the locks and descriptors of the
state reached (`Run.exec`, `Run.agree`).
-/
import Dos.Fd
import Dos.Proofs.IOLib
import Dos.Proofs.IOEmits

namespace Dos.Fd
open Dos Dos.IO

theorem held_append (a b : List Act) : held (a ++ b) = held a + held b := by
  induction a with
  | nil => exact (Int.zero_add _).symm
  | cons x xs ih => rw [List.cons_append, held, held, ih, Int.add_assoc]

theorem held_concat (l : List Act) (a : Act) : held (l ++ [a]) = held l + delta a := by
  rw [held_append]; exact congrArg _ (Int.add_zero _)

/-- in the Boolean form in which `all_map_of`, `all_ite_of`, `all_append_of` (and `rfl`, for a concrete list) produce it -/
theorem held_eq_zero {l : List Act} (h : l.all (delta · == 0) = true) : held l = 0 := by
  induction l with
  | nil => rfl
  | cons a l ih =>
    obtain ⟨ha, hl⟩ := Bool.and_eq_true_iff.mp h
    rw [held, beq_iff_eq.mp ha, ih hl]; rfl

theorem held_take_zero {l : List Act} (h : l.all (delta · == 0) = true) (k : Nat) : held (l.take k) = 0 :=
  held_eq_zero (List.all_eq_true.mpr fun a ha => List.all_eq_true.mp h a (List.mem_of_mem_take ha))

def midAct : Act → Bool
  | .lock _ => true
  | .pkClose _ => true
  | _ => false

/-- the action list ends between the two halves of a pair: after `lock p` (before `pkOpen p`), or after `pkClose p`
    (before `unlock p`) -/
def midPair (l : List Act) : Bool :=
  match l.getLast? with
  | some a => midAct a
  | none => false

theorem midPair_concat (l : List Act) (a : Act) : midPair (l ++ [a]) = midAct a := by
  simp only [midPair, List.getLast?_concat]

/-- actions that neither open nor close a descriptor, and do not touch the locks or the sandbox -/
def neutral : Act → Bool
  | .sbCreate | .sbClose | .sbWrite _ | .sbFlush | .sbFsync | .sbRemove | .renameLoose _ => false
  | .lock _ | .unlock _ | .pkOpen _ | .pkClose _ => false
  | _ => true

theorem neutral_spec {a : Act} (h : neutral a = true) :
    delta a = 0 ∧ midAct a = false ∧ ∀ x : XSt, (exec x a).locks = x.locks ∧ (exec x a).sandbox = x.sandbox := by
  simp only [exec_eq]
  cases a <;> first | contradiction | exact ⟨rfl, rfl, fun _ => ⟨rfl, rfl⟩⟩

/-- the action-based count at a point inside a block (`b`), between the halves of a pair iff `m` -/
def cnt (b m : Bool) : Int := (if b then 2 else 0) - (if m then 1 else 0)

/-- One step of the descriptor automaton of a pack writer: with the lock `o` held (if any), between the halves of a pair iff
    `m`, the action `a` leads to `o'`, `m'`.  Outside a `with lock_pack(...)` block nothing is held; a block is
    `lock p, pkOpen p`, neutral actions, `pkClose p, unlock p`. -/
inductive Tr : Option Nat → Bool → Act → Option Nat → Bool → Prop
  | lock (p : Nat) : Tr none false (.lock p) (some p) true
  | pkOpen (p : Nat) : Tr (some p) true (.pkOpen p) (some p) false
  | pkClose (q : Nat) : Tr (some q) false (.pkClose q) (some q) true
  | unlock (q : Nat) : Tr (some q) true (.unlock q) none false
  | skip {o : Option Nat} {a : Act} : neutral a = true → Tr o false a o false

/-- the runs of the automaton from `o`, `m`; the pack-writer programs are runs from `none`, `false` (nothing held) -/
inductive Run (o : Option Nat) (m : Bool) : List Act → Option Nat → Bool → Prop
  | nil : Run o m [] o m
  | snoc {l : List Act} {o1 : Option Nat} {m1 : Bool} {a : Act} {o2 : Option Nat} {m2 : Bool} :
      Run o m l o1 m1 → Tr o1 m1 a o2 m2 → Run o m (l ++ [a]) o2 m2

section
variable {l l' : List Act} {o o' o1 o2 : Option Nat} {m m' m1 m2 : Bool} {a : Act}

theorem Tr.count (h : Tr o m a o' m') :
    cnt o.isSome m + delta a = cnt o'.isSome m' ∧ midAct a = m' ∧ (m' = true → o'.isSome = true) := by
  cases h with
  | lock | pkClose => exact ⟨rfl, rfl, fun _ => rfl⟩
  | pkOpen | unlock => exact ⟨rfl, rfl, nofun⟩
  | skip ha => exact ⟨(neutral_spec ha).1 ▸ Int.add_zero _, (neutral_spec ha).2.1, nofun⟩

theorem Tr.exec (h : Tr o m a o' m') {x : XSt} (hx : x.locks = o.toList) :
    (exec x a).sandbox = x.sandbox ∧ (exec x a).locks = o'.toList := by
  cases h with
  | lock p => exact ⟨rfl, congrArg (p :: ·) hx⟩
  | pkOpen p => rw [exec_pkOpen]; exact ⟨rfl, hx⟩
  | pkClose => exact ⟨rfl, hx⟩
  | unlock => exact ⟨rfl, by show List.filter _ _ = []; rw [hx]; simp⟩
  | skip ha => exact ⟨((neutral_spec ha).2.2 x).2, ((neutral_spec ha).2.2 x).1.trans hx⟩

theorem Run.spec (h : Run none false l o m) : held l = cnt o.isSome m ∧ midPair l = m ∧ (m = true → o.isSome = true) := by
  induction h with
  | nil => exact ⟨rfl, rfl, nofun⟩
  | snoc _ tr ih =>
    obtain ⟨c, mid, pos⟩ := tr.count
    exact ⟨by rw [held_concat, ih.1, c], (midPair_concat _ _).trans mid, pos⟩

theorem Run.exec (h : Run o m l o' m') {x : XSt} (hx : x.locks = o.toList) :
    (execAll x l).sandbox = x.sandbox ∧ (execAll x l).locks = o'.toList := by
  induction h with
  | nil => exact ⟨rfl, hx⟩
  | snoc _ tr ih =>
    rw [execAll_append]
    exact ⟨(tr.exec ih.2).1.trans ih.1, (tr.exec ih.2).2⟩

/-- a prefix of a run is a run: what holds of every run holds of every prefix of one -/
theorem Run.forall_take {Q : List Act → Prop} (hQ : ∀ {l o' m'}, Run o m l o' m' → Q l) (h : Run o m l o' m') :
    ∀ k, Q (l.take k) := by
  induction h with
  | nil => intro k; rw [List.take_nil]; exact hQ .nil
  | snoc h tr ih => exact forall_take_concat ih (hQ (h.snoc tr))

theorem Run.balanced (h : Run none false l none false) : held l = 0 := h.spec.1

/-- `(o.isSome, m)` is one of the three states `(false, false)`, `(true, true)`, `(true, false)` -/
theorem cnt_bounds {b m : Bool} (pos : m = true → b = true) :
    (if b then 2 else 0 : Int) = cnt b m + (if m then 1 else 0) ∧ (if b then 2 else 0 : Int) ≤ 2 ∧ 0 ≤ cnt b m ∧ cnt b m ≤ 2 := by
  cases b <;> cases m <;> first | decide | exact nomatch pos rfl

theorem Run.bounded (h : Run none false l o m) : ∀ k, 0 ≤ held (l.take k) ∧ held (l.take k) ≤ 2 :=
  Run.forall_take (fun h => h.spec.1 ▸ (cnt_bounds h.spec.2.2).2.2) h

/-- the state-based count is the action-based one, except that it is one ahead between the halves of a pair -/
theorem Run.agree (h : Run none false l o m) {x0 : XSt} (h1 : x0.sandbox = none) (h2 : x0.locks = []) :
    heldBy (execAll x0 l) = held l + (if midPair l then 1 else 0) ∧ heldBy (execAll x0 l) ≤ 2 := by
  obtain ⟨he, hm, pos⟩ := h.spec
  obtain ⟨sb, lk⟩ := h.exec h2
  have hs : heldBy (execAll x0 l) = if o.isSome then 2 else 0 := by rw [heldBy, sb, h1, lk]; cases o <;> rfl
  rw [hs, he, hm]
  exact ⟨(cnt_bounds pos).1, (cnt_bounds pos).2.1⟩

/-- runs compose: one block, one session, one operation after the other -/
theorem Run.trans (h : Run o m l o1 m1) (h' : Run o1 m1 l' o2 m2) : Run o m (l ++ l') o2 m2 := by
  induction h' with
  | nil => rw [List.append_nil]; exact h
  | snoc _ tr ih => rw [← List.append_assoc]; exact ih.snoc tr

theorem Run.skips : ∀ (z : List Act), z.all neutral = true → Run o false z o false
  | [], _ => .nil
  | _ :: z, hz =>
    have ⟨ha, hz⟩ := Bool.and_eq_true_iff.mp hz
    (Run.nil.snoc (.skip ha)).trans (Run.skips z hz)

theorem Run.open (p : Nat) : Run none false [.lock p, .pkOpen p] (some p) false :=
  (Run.nil.snoc (.lock p)).snoc (.pkOpen p)

theorem Run.close (q : Nat) {a b : List Act} (ha : a.all neutral = true) (hb : b.all neutral = true) :
    Run (some q) false (a ++ [.pkClose q, .unlock q] ++ b) none false :=
  ((Run.skips a ha).trans ((Run.nil.snoc (.pkClose q)).snoc (.unlock q))).trans (.skips b hb)

end

/-- the action list that ends a session on `q` leads out of the block -/
def EndsBlock (e : Nat → List Row → List Act) : Prop := ∀ q rows, Run (some q) false (e q rows) none false

theorem endsBlock_sessionEndO (trunc f c : Bool) : EndsBlock (sessionEndO · · trunc f c) := fun q rows =>
  -- `sessionEndO q rows ..` is `((truncate? ++ inserts) ++ sync?) ++ [pkClose q, unlock q] ++ commit?`
  .close q (all_append_of (all_append_of (all_ite_of rfl rfl) (all_map_of (fun _ => rfl) rows)) (all_ite_of rfl rfl))
    (all_ite_of rfl rfl)

theorem endsBlock_sessionEndCleanO (cl f : Bool) : EndsBlock (sessionEndCleanO · · cl f) := fun q rows =>
  (endsBlock_sessionEndO false f true q rows).trans (.skips _ (all_ite_of (all_map_of (fun _ => rfl) rows) rfl))

/-- inside the block of the open pack, if there is one -/
theorem run_emits {t : Tab} {e : Nat → List Row → List Act} (he : EndsBlock e) {nh : Bool} {s0 : St} {ks : List Nat}
    {w : WSt} (h : Emits t e nh s0 ks w) : Run none false w.acts w.openP false := by
  induction h with
  | init => exact .nil
  | opn _ hop _ ih => rw [hop] at ih; exact ih.trans (.open _)
  | same _ _ ih => exact ih
  | ends _ hop ih => rw [hop] at ih; exact ih.trans (he _ _)
  | write _ _ _ _ _ ih => exact ih.trans (.skips _ rfl)
  | wtrunc _ _ _ _ ih => exact ih.trans (.skips _ rfl)
  | read _ _ ih => exact ih.trans (.skips _ rfl)

theorem run_fin {t : Tab} {e : Nat → List Row → List Act} (he : EndsBlock e) {nh : Bool} {s0 : St} {ks : List Nat}
    {w : WSt} (h : Emits t e nh s0 ks w) : Run none false (finG e w) none false := by
  obtain ⟨w', h', hop, ha, _⟩ := h.fin
  have g := run_emits he h'
  rwa [hop, ha] at g

theorem run_callActs (t : Tab) (s : St) (cs : List Nat) (z nh rt f cm : Bool) :
    Run none false (callActs t s cs z nh rt f cm).1 none false := by
  rw [callActs_eq]
  split
  · exact .nil
  · exact (Emits.foldl_add z rt cs Emits.init).elim fun _ h => run_fin (endsBlock_sessionEndO nh f cm) h

/-- the plain writer is the optioned one at `do_fsync=True` -/
theorem run_addPacked (t : Tab) (s : St) (cs : List Nat) (z nh rt : Bool) :
    Run none false (actsAddPacked t s cs z nh rt) none false :=
  actsAddPackedO_fsync t s cs z nh rt ▸ run_callActs t s cs z nh rt true true

theorem run_packAllO (t : Tab) (s : St) (order : List Nat) (zs : List Bool) (cl f : Bool) :
    Run none false (actsPackAllO t s order zs cl f) none false := by
  rw [actsPackAllO_eq]
  split
  · exact .nil
  · exact run_fin (nh := false) (endsBlock_sessionEndCleanO cl f) (Emits.foldl_pack _ Emits.init)

theorem run_packAll (t : Tab) (s : St) (order : List Nat) (zs : List Bool) (cl : Bool) :
    Run none false (actsPackAll t s order zs cl) none false :=
  actsPackAllO_fsync t s order zs cl ▸ run_packAllO t s order zs cl true

theorem run_repackPack (t : Tab) (s : St) (p : Nat) (zs : List Bool) :
    Run none false (actsRepackPack t s p zs) none false := by
  unfold actsRepackPack
  simp only
  split
  · split
    · exact .skips [.pkUnlink p] rfl
    · exact .nil
  · generalize rebuild t tmpId _ zs 0 = gr
    obtain ⟨gs, rs'⟩ := gr
    -- composed in the association in which `actsRepackPack` writes the program: nothing has to be re-bracketed
    exact (((((Run.open tmpId).snoc (.skip (a := .pkRead p) rfl)).trans (.skips _ (all_map_of (fun _ => rfl) gs))).trans
      (.close tmpId (a := [.pkFlush tmpId, .pkFsync tmpId, .dirSync]) (b := []) rfl rfl)).trans
      (.skips _ (all_map_of (fun _ => rfl) rs'))).trans (.skips _ rfl)

theorem exec_release (L : List Nat) : ∀ x : XSt, x.sandbox = none → (∀ q ∈ x.locks, q ∈ L) →
    (execAll x (L.flatMap (fun p => [Act.pkClose p, .unlock p]))).sandbox = none ∧
    (execAll x (L.flatMap (fun p => [Act.pkClose p, .unlock p]))).locks = [] := by
  induction L with
  | nil => exact fun x hs h => ⟨hs, List.eq_nil_iff_forall_not_mem.mpr fun q hq => nomatch h q hq⟩
  | cons p L ih =>
    intro x hs h
    refine ih (exec (exec x (.pkClose p)) (.unlock p)) hs fun q hq => ?_
    obtain ⟨hq, hne⟩ := List.mem_filter.mp hq
    exact (List.mem_cons.mp (h q hq)).resolve_left (bne_iff_ne.mp hne)

theorem handlers_release (x : XSt) :
    (execAll x (handlers x)).sandbox = none ∧ (execAll x (handlers x)).locks = [] := by
  unfold handlers
  rw [execAll_append]
  -- `sbClose`, `sbRemove` leave the locks alone
  cases hs : x.sandbox with
  | none => exact exec_release x.locks _ hs fun _ => id
  | some f => exact exec_release x.locks _ rfl fun _ => id

theorem runFault_heldBy (x : XSt) (acts : List Act) (k : Nat) : heldBy (runFault x acts k) = 0 := by
  unfold runFault heldBy
  simp only
  obtain ⟨i1, i2⟩ := handlers_release (execAll x (List.take k acts))
  rw [i1, i2]
  rfl

end Dos.Fd
