/-
The association list of pack files, segment lengths, row ids.
-/
import Dos.Inv
import Dos.Proofs.ListAux

namespace Dos

@[simp] theorem segsLen_nil (t : Tab) : segsLen t [] = 0 := rfl
@[simp] theorem segsLen_cons (t : Tab) (g : Seg) (gs : List Seg) : segsLen t (g :: gs) = g.len t + segsLen t gs := rfl

@[simp] theorem segsLen_append (t : Tab) (a b : List Seg) : segsLen t (a ++ b) = segsLen t a + segsLen t b := by
  induction a with
  | nil => simp
  | cons g gs ih => simp [ih, Nat.add_assoc]

theorem getPack_setPack (ps : Packs) (p q : Nat) (g : List Seg) :
    getPack (setPack ps p g) q = if q = p then some g else getPack ps q := by
  induction ps with
  | nil => simp only [setPack, getPack, eq_comm]
  | cons e rest ih =>
    obtain ⟨r, gs⟩ := e
    by_cases hr : r = p <;> by_cases hq : r = q
    · simp [setPack, getPack, ← hr, ← hq]
    · simp [setPack, getPack, ← hr, hq, Ne.symm hq]
    · simp [setPack, getPack, hr, ← hq]
    · simp [setPack, getPack, hr, hq, ih]

theorem getPack_setPack_eq {ps : Packs} {p : Nat} {segs : List Seg} : getPack (setPack ps p segs) p = some segs := by
  rw [getPack_setPack, if_pos rfl]

theorem getPack_setPack_ne {ps : Packs} {p q : Nat} {segs : List Seg} (h : q ≠ p) :
    getPack (setPack ps p segs) q = getPack ps q := by
  rw [getPack_setPack, if_neg h]

theorem getPack_erasePack (ps : Packs) (p q : Nat) :
    getPack (erasePack ps p) q = if q = p then none else getPack ps q := by
  induction ps with
  | nil => simp only [erasePack, getPack, ite_self]
  | cons e rest ih =>
    obtain ⟨r, gs⟩ := e
    by_cases hr : r = p
    · subst hr
      by_cases hq : r = q
      · subst hq; simp [erasePack, ih]
      · simp [erasePack, getPack, ih, hq, Ne.symm hq]
    · by_cases hq : r = q
      · subst hq; simp [erasePack, getPack, hr]
      · simp [erasePack, getPack, hr, hq, ih]

theorem getPack_erasePack_eq (ps : Packs) (p : Nat) : getPack (erasePack ps p) p = none := by
  rw [getPack_erasePack, if_pos rfl]

theorem getPack_erasePack_ne {ps : Packs} {p q : Nat} (h : q ≠ p) : getPack (erasePack ps p) q = getPack ps q := by
  rw [getPack_erasePack, if_neg h]

theorem getPack_append (a b : Packs) (q : Nat) : getPack (a ++ b) q = (getPack a q).or (getPack b q) := by
  induction a with
  | nil => simp [getPack]
  | cons e rest ih =>
    by_cases h : e.1 = q
    · simp [getPack, h]
    · simp [getPack, h, ih]

theorem getPack_eq_none_iff {ps : Packs} {p : Nat} : getPack ps p = none ↔ p ∉ ps.map (·.1) := by
  induction ps with
  | nil => simp only [getPack, List.map_nil, List.not_mem_nil, not_false_eq_true]
  | cons e rest ih =>
    simp only [getPack, List.map_cons, List.mem_cons, not_or, ← ih]
    by_cases h : e.1 = p
    · simp [h]
    · simp [h, Ne.symm h]

theorem mem_keys_of_getPack {ps : Packs} {p : Nat} {segs : List Seg} (h : getPack ps p = some segs) :
    p ∈ ps.map (·.1) := by
  refine Decidable.byContradiction fun hn => ?_
  rw [getPack_eq_none_iff.mpr hn] at h
  cases h

theorem keys_setPack (ps : Packs) (p : Nat) (segs : List Seg) :
    (setPack ps p segs).map (·.1) = if p ∈ ps.map (·.1) then ps.map (·.1) else ps.map (·.1) ++ [p] := by
  induction ps with
  | nil => rfl
  | cons e rest ih =>
    obtain ⟨q, gs⟩ := e
    by_cases h1 : q = p
    · subst h1
      simp only [setPack, if_true, List.map_cons, List.mem_cons, true_or]
    · simp only [setPack, if_neg h1, List.map_cons, ih, List.mem_cons, Ne.symm h1, false_or]
      split <;> rfl

theorem mem_keys_setPack {ps : Packs} {p x : Nat} {segs : List Seg} :
    x ∈ (setPack ps p segs).map (·.1) ↔ x ∈ ps.map (·.1) ∨ x = p := by
  rw [keys_setPack]
  split
  · next h => exact ⟨Or.inl, fun h' => h'.elim id (· ▸ h)⟩
  · rw [List.mem_append, List.mem_singleton]

theorem length_setPack (ps : Packs) (p : Nat) (segs : List Seg) :
    (setPack ps p segs).length = if p ∈ ps.map (·.1) then ps.length else ps.length + 1 := by
  have h := congrArg List.length (keys_setPack ps p segs)
  rw [List.length_map] at h
  rw [h]
  split
  · exact List.length_map ..
  · rw [List.length_append, List.length_map]; rfl

theorem nodup_keys_setPack {ps : Packs} (p : Nat) (segs : List Seg) (h : (ps.map (·.1)).Nodup) :
    ((setPack ps p segs).map (·.1)).Nodup := by
  rw [keys_setPack]
  split
  · exact h
  · next hp => exact nodup_snoc h hp

theorem setPack_same {ps : Packs} {p : Nat} {segs : List Seg} (h : getPack ps p = some segs) : setPack ps p segs = ps := by
  induction ps with
  | nil => simp [getPack] at h
  | cons e rest ih =>
    by_cases h1 : e.1 = p
    · simp only [getPack, h1, if_true, Option.some.injEq] at h
      simp [setPack, ← h1, ← h]
    · simp only [getPack, h1, if_false] at h
      simp [setPack, h1, ih h]

theorem setPack_setPack (ps : Packs) (p : Nat) (a b : List Seg) : setPack (setPack ps p a) p b = setPack ps p b := by
  induction ps with
  | nil => simp [setPack]
  | cons e rest ih =>
    obtain ⟨r, old⟩ := e
    by_cases h1 : r = p
    · subst h1; simp [setPack]
    · simp [setPack, h1, ih]

/-- opening a pack (`lock_pack` creates the file) is appending nothing to it: what holds of `setPack ps p (old ++ ext)` for
    every `ext` holds of `ensurePack ps p` -/
theorem ensurePack_eq (ps : Packs) (p : Nat) : ensurePack ps p = setPack ps p ((getPack ps p).getD [] ++ []) := by
  unfold ensurePack
  cases hg : getPack ps p with
  | none => rfl
  | some segs => exact (setPack_same (by rw [hg]; exact congrArg some (List.append_nil _).symm)).symm

theorem getPack_ensurePack (ps : Packs) (p : Nat) :
    getPack (ensurePack ps p) p = some ((getPack ps p).getD []) := by
  rw [ensurePack_eq, getPack_setPack_eq, List.append_nil]

theorem setPack_ensurePack (ps : Packs) (p : Nat) (segs : List Seg) :
    setPack (ensurePack ps p) p segs = setPack ps p segs := by
  rw [ensurePack_eq, setPack_setPack]

theorem erasePack_of_getPack_none {ps : Packs} {p : Nat} (h : getPack ps p = none) : erasePack ps p = ps := by
  induction ps with
  | nil => rfl
  | cons e rest ih =>
    obtain ⟨q, o⟩ := e
    by_cases hq : q = p
    · simp [getPack, hq] at h
    · simp only [getPack, hq, if_false] at h
      simp [erasePack, hq, ih h]

theorem keys_erasePack_sublist (ps : Packs) (p : Nat) :
    ((erasePack ps p).map (·.1)).Sublist (ps.map (·.1)) := by
  induction ps with
  | nil => simp [erasePack]
  | cons e rest ih =>
    obtain ⟨q, gs⟩ := e
    simp only [erasePack]
    split
    · exact List.Sublist.cons _ ih
    · simp only [List.map_cons]
      exact List.Sublist.cons_cons _ ih

theorem le_maxId {rows : List Row} {r : Row} (h : r ∈ rows) : r.id ≤ maxId rows := by
  induction rows with
  | nil => cases h
  | cons x xs ih =>
    rcases List.mem_cons.mp h with rfl | h
    · exact Nat.le_max_left ..
    · exact Nat.le_trans (ih h) (Nat.le_max_right ..)

theorem lt_nextId {rows : List Row} {r : Row} (h : r ∈ rows) : r.id < nextId rows :=
  Nat.lt_succ_of_le (le_maxId h)

theorem nodupB_iff {l : List Nat} : nodupB l = true ↔ l.Nodup := by
  induction l with
  | nil => simp [nodupB]
  | cons x xs ih => simp [nodupB, ih]

end Dos
