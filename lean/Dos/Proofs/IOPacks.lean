import Dos.Proofs.IOPackAllOProofs

namespace Dos.IO

theorem done_addPacked {t : Tab} {s : St} (inv : Inv t s) (cs : List Nat) (z nh rt : Bool) :
    SameDisk (toSt (execAll (ofSt s) (actsAddPacked t s cs z nh rt))) (addPacked t s cs z nh) :=
  actsAddPackedO_fsync t s cs z nh rt ▸ done_addPackedO inv cs z nh rt true

theorem done_packAll {t : Tab} {s s' : St} (inv : Inv t s) {m : Mode} {order : List Nat} {zs : List Bool} {cl : Bool}
    (h : packAll t s m order zs cl = some s') :
    SameDisk (toSt (execAll (ofSt s) (actsPackAll t s order zs cl))) s' :=
  actsPackAllO_fsync t s order zs cl ▸ done_packAllO inv h true

theorem safe_addPacked {t : Tab} (wf : t.WF) {s : St} (inv : Inv t s) (hb : Bounded s) (cs : List Nat)
    (hc : ∀ c ∈ cs, c < garbage) (z nh rt : Bool) : AllSafe t s (actsAddPacked t s cs z nh rt) (keysOf s) := by
  have _ := hb
  have _ := hc
  exact actsAddPackedO_fsync t s cs z nh rt ▸
      allSafe_of_gw wf (Imp.call_step (Imp.idle_ofSt inv) cs z nh rt true true (fun _ => rfl)).1

theorem safe_packAll {t : Tab} (wf : t.WF) {s : St} (inv : Inv t s) (hb : Bounded s) (order : List Nat) (zs : List Bool)
    (cl : Bool) (ho : ∀ k ∈ order, hasLoose s k = true ∧ hasRow s k = false) (hn : order.Nodup)
    (hz : zs.length = order.length) : AllSafe t s (actsPackAll t s order zs cl) (keysOf s) := by
  have _ := hb
  have _ := ho
  have _ := hn
  have _ := hz
  exact actsPackAllO_fsync t s order zs cl ▸
      allSafe_of_gw wf (Imp.packAllO_step (Imp.idle_ofSt inv) order zs cl true (fun _ => rfl)).1

end Dos.IO
