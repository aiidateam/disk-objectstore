/-
What C15 (`Dos/Proofs/BackupProofs.lean`) rests on: the invariant `BInv` of a backup run, inductive over `bdisciplined`
schedules in which the live SQLite side files are not copied; at the end it makes the backup folder a container.
-/
import Dos.Backup
import Dos.Proofs.ConcAux

namespace Dos.Backup
open Dos Dos.IO Dos.Conc

structure RowsGood (t : Tab) (rows : List Row) : Prop where
  keys : (rows.map (·.key)).Nodup
  ids : (rows.map (·.id)).Nodup
  pos : ∀ r1 ∈ rows, ∀ r2 ∈ rows, r1.pack = r2.pack → r1.id < r2.id → r1.off + r1.len ≤ r2.off
  size : ∀ r ∈ rows, r.size = t.size r.key

theorem rowsGood_nil (t : Tab) : RowsGood t [] where
  keys := List.nodup_nil
  ids := List.nodup_nil
  pos := fun _ h => nomatch h
  size := fun _ h => nomatch h

theorem rowsGood_commit {t : Tab} {x : XSt} (ha : pkAllowed t x .sqlCommit = true)
    (hl : layoutOKb (workOf x) = true) : RowsGood t (workOf x) := by
  obtain ⟨h1, _, h3⟩ := pkAllowed_commit.mp ha
  simp only [layoutOKb, Bool.and_eq_true, List.all_eq_true, nodupB_iff] at hl
  exact { keys := h3, ids := hl.1, size := fun r hr => (h1 r hr).2
          pos := fun r1 hr1 r2 hr2 hp hi => by simpa [hp, hi] using hl.2 r1 hr1 r2 hr2 }

theorem rowsGood_of_inv {t : Tab} {s : St} (inv : Inv t s) : RowsGood t s.rows where
  keys := inv.keys_nodup
  ids := inv.ids_nodup
  pos := inv.ids_pos
  size := fun r hr => (inv.rows_ok r hr).size

/-- at `dumpIndex`, `st1` (a key of `atStart` is copied or still available live) becomes `st2` (copied or in the dumped
    index); at `cpPack`, `rowsF` becomes `rowsBk` (a dumped row reads back from the copy of its pack) -/
structure BInv (t : Tab) (b : BSt) : Prop where
  cinv : CInv t b.g
  rg : RowsGood t b.g.x.rows
  tgt : 0 < b.g.x.target
  lk : ∀ e ∈ b.bkLoose, e.2 = e.1
  lnd : (b.bkLoose.map (·.1)).Nodup
  pnd : (b.bkPacks.map (·.1)).Nodup
  brg : RowsGood t b.bkRows
  early : b.phase < 2 → b.bkPacks = []
  /-- the rows of the dumped index stay readable in the flushed prefix of the live packs (packs only grow: `XStep.fok`),
      so a pack copied at any later moment holds them -/
  rowsF : ∀ r ∈ b.bkRows, FOK t b.g.x.packs r
  rowsBk : ∀ p segs, getPack b.bkPacks p = some segs → ∀ r ∈ b.bkRows, r.pack = p →
    findSeg t segs r.off r.len r.z = some r.key
  st1 : b.phase = 1 → ∀ k ∈ b.atStart, k ∈ b.bkLoose.map (·.1) ∨ Avail b.g.x.rows b.g.x.loose k
  st2 : 2 ≤ b.phase → ∀ k ∈ b.atStart, k ∈ b.bkLoose.map (·.1) ∨ k ∈ b.bkRows.map (·.key)
  fin : b.phase = 3 → ∀ r ∈ b.bkRows, (getPack b.bkPacks r.pack).isSome = true

theorem binv_init {t : Tab} (wf : t.WF) {s : St} (inv : Inv t s) (wkeys rkeys : List Nat) :
    BInv t (BSt.init (CSt.init s wkeys rkeys)) where
  cinv := cinv_init wf inv wkeys rkeys
  rg := rowsGood_of_inv inv
  tgt := inv.target_pos
  lk := by intro e he; cases he
  lnd := List.nodup_nil
  pnd := List.nodup_nil
  brg := rowsGood_nil t
  early := fun _ => rfl
  rowsF := by intro r hr; cases hr
  rowsBk := by intro p segs h; cases h
  st1 := by intro h; cases h
  st2 := by intro _ k hk; cases hk
  fin := by intro _ r hr; cases hr

theorem binv_sys {t : Tab} {b : BSt} (h : BInv t b) (e : Ev)
    (hd : (match e with
           | .pk a => pkAllowed t b.g.x a
           | _ => true) = true)
    (hl : e = .pk .sqlCommit → layoutOKb (workOf b.g.x) = true) : BInv t { b with g := cstep t b.g e } := by
  have X := xstep_cstep b.g e hd
  refine { h with
    cinv := cinv_step h.cinv e hd
    rg := ?_
    tgt := (cstep_target t b.g e).symm ▸ h.tgt
    rowsF := fun r hr => X.fok r (h.rowsF r hr)
    st1 := fun hp k hk => (h.st1 hp k hk).imp_right (X.avail k) }
  by_cases he : e = .pk .sqlCommit
  · subst he
    exact rowsGood_commit hd (hl rfl)
  · exact (cstep_rows t b.g he).symm ▸ h.rg

/-- the shape of every `bstep` case (see `Conc.wr_event`) -/
theorem guarded {P : BSt → Prop} {b : BSt} (h : P b) {c : Prop} [Decidable c] {b' : BSt} (h' : c → P b') :
    P (if c then b' else b) := by
  split
  · exact h' ‹_›
  · exact h

theorem binv_step {t : Tab} {b : BSt} (h : BInv t b) (e : BEv)
    (hd : (match e with
           | .sys (.pk a) => pkAllowed t b.g.x a && (match a with
                                                     | .sqlCommit => layoutOKb (workOf b.g.x)
                                                     | _ => true)
           | _ => true) = true) (hw : e ≠ .walCopied) : BInv t (bstep t b e) := by
  cases e with
  | walCopied => exact absurd rfl hw
  | sys ev =>
    refine binv_sys h ev ?_ fun he => ?_
    · cases ev with
      | pk a => exact (Bool.and_eq_true_iff.mp hd).1
      | _ => rfl
    · subst he
      exact (Bool.and_eq_true_iff.mp hd).2
  | start =>
    exact guarded h fun hp => { h with
      early := fun _ => h.early (by simp [hp])
      st1 := fun _ k hk => Or.inr (h.cinv.acked k hk)
      st2 := fun hp' => absurd hp' (by simp)
      fin := fun hp' => absurd hp' (by simp) }
  | cpLoose k =>
    refine guarded h fun hp => ?_
    split
    · next e0 hf =>
      have hk : e0.1 = k := by simpa using List.find?_some hf
      obtain ⟨ha, hb⟩ := h.cinv.loose_ok e0 (List.mem_of_find?_eq_some hf)
      exact { h with
        lk := forall_replace h.lk (by simp [ha, hb, hk])
        lnd := nodup_replace k _ h.lnd
        st1 := fun hp' k' hk' => (h.st1 hp' k' hk').imp_left keys_replace
        st2 := fun hp' => absurd hp' (by simp [hp]) }
    · exact h
  | dumpIndex =>
    refine guarded h fun ⟨hp, hg⟩ => ?_
    have hpk : b.bkPacks = [] := h.early (by simp [hp])
    exact { h with
      brg := h.rg
      early := fun hp' => absurd hp' (by simp)
      rowsF := h.cinv.rows_ok
      rowsBk := fun p segs hgp => by rw [hpk] at hgp; cases hgp
      st1 := fun hp' => absurd hp' (by simp)
      st2 := fun _ k hk => by
        -- the guard of the phase change: a key of `atStart` is gone from `loose/`, or copied, or committed
        have g1 := List.all_eq_true.mp hg k hk
        simp only [Bool.or_eq_true, Bool.not_eq_true', List.any_eq_true, beq_iff_eq] at g1
        rcases g1 with (g1 | ⟨p, hp1, hp2⟩) | ⟨r, hr, e⟩
        · rcases h.st1 hp k hk with h1 | h1 | h1
          · exact Or.inl h1
          · exact Or.inr h1
          · exact absurd (h1.symm.trans g1) (by decide)
        · exact Or.inl (List.mem_map.mpr ⟨p, hp1, hp2⟩)
        · exact Or.inr (List.mem_map.mpr ⟨r, hr, e⟩)
      fin := fun hp' => absurd hp' (by simp) }
  | cpPack p =>
    refine guarded h fun hp => ?_
    split
    · next pk0 hg =>
      exact { h with
        pnd := nodup_keys_setPack p _ h.pnd
        early := fun hp' => absurd hp' (by simp [hp])
        rowsBk := fun q segs hgq r hr hrq => by
          have hgq := (getPack_setPack ..).symm.trans hgq
          split at hgq
          · next hqp =>
            -- the pack just copied: the row reads in the flushed prefix of the live pack, and that is what was copied
            obtain ⟨pk1, f1, f2⟩ := h.rowsF r hr
            rw [hrq, hqp, hg] at f1
            cases f1; cases hgq
            exact f2
          · exact h.rowsBk q segs hgq r hr hrq
        fin := fun hp' => absurd hp' (by simp [hp]) }
    · exact h
  | finish =>
    exact guarded h fun ⟨hp, hg⟩ => { h with
      early := fun hp' => absurd hp' (by simp)
      st1 := fun hp' => absurd hp' (by simp)
      st2 := fun _ => h.st2 (by simp [hp])
      fin := fun _ => List.all_eq_true.mp hg }

theorem binv_brun {t : Tab} (sched : List BEv) : ∀ b : BSt, BInv t b → bdisciplined t b sched = true →
    noWal sched = true → BInv t (brun t b sched) := by
  induction sched with
  | nil => intro b h _ _; exact h
  | cons e es ih =>
    intro b h hd hn
    simp only [bdisciplined, Bool.and_eq_true] at hd
    have hw : e ≠ .walCopied := fun he => by subst he; exact nomatch hn
    have hn' : noWal es = true := by
      cases e <;> first | exact hn | exact absurd rfl hw
    exact ih _ (binv_step h e hd.1 hw) hd.2 hn'

theorem inv_image {t : Tab} {b : BSt} (h : BInv t b) (hp : b.phase = 3) : Inv t (image b) where
  rows_ok := by
    intro r (hr : r ∈ b.bkRows)
    obtain ⟨segs, hg⟩ := Option.isSome_iff_exists.mp (h.fin hp r hr)
    obtain ⟨pre, post, e1, e2, e3⟩ := findSeg_some_decomp (h.rowsBk _ segs hg r hr rfl)
    exact ⟨segs, pre, post, hg, e1, e2, e3, h.brg.size r hr⟩
  keys_nodup := h.brg.keys
  ids_nodup := h.brg.ids
  ids_pos := h.brg.pos
  packs_nodup := h.pnd
  loose_nodup := h.lnd
  loose_ok := fun e he => (h.lk e he).symm
  target_pos := h.tgt

theorem safeImg_image {t : Tab} (wf : t.WF) {b : BSt} (h : BInv t b) (hp : b.phase = 3) :
    SafeImg t (image b) b.atStart :=
  have I := inv_image h hp
  have h2 : 2 ≤ b.phase := by rw [hp]; decide
  safeImg_of wf I.rows_ok I.loose_ok fun k hk => (h.st2 h2 k hk).symm

end Dos.Backup
