/-
Reading through the index: the segment found at a row's offset is the row's own content.
-/
import Dos.Proofs.Basic

namespace Dos

theorem Seg.size_eq_zero_of_len {t : Tab} (wf : t.WF) {g : Seg} (h : g.len t = 0) : t.size g.cid = 0 := by
  unfold Seg.len at h
  split at h
  · exact absurd h (Nat.ne_of_gt (wf.zpos _))
  · exact h

theorem findSeg_decomp {t : Tab} (wf : t.WF) (pre : List Seg) (g : Seg) (post : List Seg) :
    findSeg t (pre ++ g :: post) (segsLen t pre) (g.len t) g.z = some g.cid := by
  induction pre with
  | nil => exact if_pos ⟨rfl, rfl, rfl⟩
  | cons x xs ih =>
    simp only [List.cons_append, segsLen_cons, findSeg]
    by_cases h : x.len t + segsLen t xs = 0 ∧ x.len t = g.len t ∧ x.z = g.z
    · -- a segment in front of `g` that looks like `g` at `g`'s offset is empty like `g`, and only one content is empty
      have hx : x.len t = 0 := Nat.eq_zero_of_add_eq_zero_right h.1
      rw [if_pos h, wf.empty_unique _ _ (Seg.size_eq_zero_of_len wf hx) (Seg.size_eq_zero_of_len wf (h.2.1 ▸ hx))]
    · rw [if_neg h, if_pos (Nat.le_add_right _ _), Nat.add_sub_cancel_left]
      exact ih

theorem findRow_some {rows : List Row} {k : Nat} {r : Row} (h : findRow rows k = some r) : r ∈ rows ∧ r.key = k :=
  ⟨List.mem_of_find?_eq_some h, beq_iff_eq.mp (List.find?_some h :)⟩

theorem findRow_none_iff {rows : List Row} {k : Nat} : findRow rows k = none ↔ k ∉ rows.map (·.key) := by
  simp only [findRow, List.find?_eq_none, beq_iff_eq, List.mem_map, not_exists, not_and]

theorem findRow_of_mem {rows : List Row} (nd : (rows.map (·.key)).Nodup) {r : Row} (hr : r ∈ rows) :
    findRow rows r.key = some r := by
  cases hf : findRow rows r.key with
  | none => exact absurd (List.mem_map_of_mem hr) (findRow_none_iff.mp hf)
  | some r' => exact congrArg some (eq_of_map_nodup nd (findRow_some hf).1 hr (findRow_some hf).2)

theorem findLoose_none_iff {l : List (Nat × Nat)} {k : Nat} : findLoose l k = none ↔ k ∉ l.map (·.1) := by
  simp only [findLoose, Option.map_eq_none_iff, List.find?_eq_none, beq_iff_eq, List.mem_map, not_exists, not_and]

theorem findLoose_some {l : List (Nat × Nat)} {k c : Nat} (h : findLoose l k = some c) : (k, c) ∈ l := by
  obtain ⟨e, he, rfl⟩ := Option.map_eq_some_iff.mp h
  have hk : e.1 = k := beq_iff_eq.mp (List.find?_some he :)
  exact hk ▸ List.mem_of_find?_eq_some he

theorem hasRow_iff {s : St} {k : Nat} : hasRow s k = true ↔ k ∈ s.rows.map (·.key) := List.contains_iff_mem

theorem hasLoose_iff {s : St} {k : Nat} : hasLoose s k = true ↔ k ∈ s.loose.map (·.1) := List.contains_iff_mem

theorem findSeg_some_decomp {t : Tab} {c : Nat} {segs : List Seg} {off len : Nat} {z : Bool}
    (h : findSeg t segs off len z = some c) :
    ∃ pre post, segs = pre ++ (⟨c, z⟩ : Seg) :: post ∧ off = segsLen t pre ∧ len = Seg.len t ⟨c, z⟩ := by
  fun_induction findSeg t segs off len z with
  | case1 => cases h
  | case2 g gs off len z h1 =>
    obtain ⟨h0, hl, rfl⟩ := h1
    cases h
    exact ⟨[], gs, rfl, h0, hl.symm⟩
  | case3 g gs off len z _ h2 ih =>
    obtain ⟨pre, post, e1, e2, e3⟩ := ih h
    exact ⟨g :: pre, post, congrArg (g :: ·) e1, by rw [segsLen_cons, ← e2, Nat.add_sub_cancel' h2], e3⟩
  | case4 => cases h

theorem findSeg_append {t : Tab} (ext : List Seg) {c : Nat} {segs : List Seg} {off len : Nat} {z : Bool}
    (h : findSeg t segs off len z = some c) : findSeg t (segs ++ ext) off len z = some c := by
  fun_induction findSeg t segs off len z with
  | case1 => cases h
  | case2 g gs off len z h1 => rw [List.cons_append, findSeg, if_pos h1]; exact h
  | case3 g gs off len z h1 h2 ih => rw [List.cons_append, findSeg, if_neg h1, if_pos h2]; exact ih h
  | case4 => cases h

namespace IO

/-- `r` designates a whole segment of `segs`: what `RowOK` says of the pack once it is looked up -/
def SegOK (t : Tab) (segs : List Seg) (r : Row) : Prop :=
  ∃ pre post, segs = pre ++ (⟨r.key, r.z⟩ : Seg) :: post ∧
    r.off = segsLen t pre ∧ r.len = Seg.len t ⟨r.key, r.z⟩ ∧ r.size = t.size r.key

theorem rowOK_iff {t : Tab} {packs : Packs} {r : Row} :
    RowOK t packs r ↔ ∃ segs, getPack packs r.pack = some segs ∧ SegOK t segs r :=
  ⟨fun ⟨segs, pre, post, h1, h2⟩ => ⟨segs, h1, pre, post, h2⟩, fun ⟨segs, h1, pre, post, h2⟩ => ⟨segs, pre, post, h1, h2⟩⟩

theorem segOK_prefix {t : Tab} {a b : List Seg} {r : Row} (h : a <+: b) (hr : SegOK t a r) : SegOK t b r := by
  obtain ⟨ext, rfl⟩ := h
  obtain ⟨pre, post, h1, h2⟩ := hr
  exact ⟨pre, post ++ ext, by rw [h1, List.append_assoc, List.cons_append], h2⟩

theorem findSeg_of_segOK {t : Tab} (wf : t.WF) {segs : List Seg} {r : Row} (h : SegOK t segs r) :
    findSeg t segs r.off r.len r.z = some r.key := by
  obtain ⟨pre, post, hs, ho, hl, _⟩ := h
  subst hs
  rw [ho, hl]
  exact findSeg_decomp wf pre ⟨r.key, r.z⟩ post

end IO

theorem RowOK.size {t : Tab} {packs : Packs} {r : Row} (h : RowOK t packs r) : r.size = t.size r.key :=
  let ⟨_, _, _, _, _, _, _, e⟩ := h
  e

theorem RowOK.len {t : Tab} {packs : Packs} {r : Row} (h : RowOK t packs r) : r.len = Seg.len t ⟨r.key, r.z⟩ :=
  let ⟨_, _, _, _, _, _, e, _⟩ := h
  e

theorem readRow_of_rowOK {t : Tab} (wf : t.WF) {s : St} {r : Row} (h : RowOK t s.packs r) :
    readRow t s r = some r.key := by
  obtain ⟨segs, hg, hs⟩ := IO.rowOK_iff.mp h
  simp only [readRow, hg]
  exact IO.findSeg_of_segOK wf hs

theorem find_of_has {t : Tab} {s : St} (inv : Inv t s) {k : Nat} (h : has s k = true) :
    (∃ r ∈ s.rows, r.key = k ∧ findRow s.rows k = some r) ∨ (findRow s.rows k = none ∧ findLoose s.loose k = some k) := by
  cases hr : findRow s.rows k with
  | some r => exact Or.inl ⟨r, (findRow_some hr).1, (findRow_some hr).2, rfl⟩
  | none =>
    refine Or.inr ⟨rfl, ?_⟩
    cases hl : findLoose s.loose k with
    | none =>
      rw [has, Bool.or_eq_true, hasRow_iff, hasLoose_iff] at h
      exact (h.elim (findRow_none_iff.mp hr) (findLoose_none_iff.mp hl)).elim
    | some c => exact congrArg some (inv.loose_ok _ (findLoose_some hl)).symm

theorem find_of_not_has {s : St} {k : Nat} (h : has s k = false) :
    findRow s.rows k = none ∧ findLoose s.loose k = none := by
  rw [has, Bool.or_eq_false_iff, ← Bool.not_eq_true, ← Bool.not_eq_true, hasRow_iff, hasLoose_iff] at h
  exact ⟨findRow_none_iff.mpr h.1, findLoose_none_iff.mpr h.2⟩

/-- C01/C02: every key the container has reads back as its own content -/
theorem getc_of_has {t : Tab} (wf : t.WF) {s : St} (inv : Inv t s) {k : Nat} (h : has s k = true) :
    getc t s k = some k := by
  unfold getc
  rcases find_of_has inv h with ⟨r, hm, rfl, e⟩ | ⟨e, el⟩
  · rw [e]; exact readRow_of_rowOK wf (inv.rows_ok r hm)
  · rw [e]; exact el

theorem getc_none_of_not_has {t : Tab} {s : St} {k : Nat} (h : has s k = false) : getc t s k = none := by
  unfold getc
  rw [(find_of_not_has h).1]
  exact (find_of_not_has h).2

theorem getMeta_size {t : Tab} {s : St} (inv : Inv t s) {k : Nat} (h : has s k = true) :
    (∃ p o l z, getMeta t s k = some (.packed (t.size k) p o l z)) ∨ getMeta t s k = some (.loose (t.size k)) := by
  unfold getMeta
  rcases find_of_has inv h with ⟨r, hm, rfl, e⟩ | ⟨e, el⟩
  · exact Or.inl ⟨r.pack, r.off, r.len, r.z, by rw [e, ← (inv.rows_ok r hm).size]⟩
  · exact Or.inr (by rw [e, el]; rfl)

theorem getMeta_none_of_not_has {t : Tab} {s : St} {k : Nat} (h : has s k = false) : getMeta t s k = none := by
  unfold getMeta
  rw [(find_of_not_has h).1, (find_of_not_has h).2]
  rfl

end Dos
