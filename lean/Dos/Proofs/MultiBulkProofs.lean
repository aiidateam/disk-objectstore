/-
The batched three-stage bulk lookup equals the one-key lookup, key by key: each distinct requested key is reported exactly
once, with what `lookup` finds for it; missing keys are reported iff asked for.
-/
import Dos.Proofs.MultiBulkAux

namespace Dos.Multi

/-- what is reported, exactly: the distinct requested keys, each once, with what the chain of finders of `lookup` finds -/
theorem bulkLookup_reports {t : Tab} {n tg : Nat} (htg : 0 < tg) {ops : List MOp} {m : MSt}
    (hrun : mrun t (MSt.init tg n) ops = some m) (h : Nat) (req : List Nat) (inMax scanMax : Nat) (hin : 0 < inMax)
    (skip : Bool) :
    Reports skip (finder (pin m h).1 m.disk.rows m.disk.loose) req.eraseDups (bulkLookup m h req inMax scanMax skip).1 := by
  have mi := minv_mrun (minv_init t htg n) hrun
  exact bulkLookup_reports_of (pin_nodup mi h) mi.inv.keys_nodup req inMax scanMax hin skip

theorem bulkLookup_spec {t : Tab} (wf : t.WF) {n tg : Nat} (htg : 0 < tg) {ops : List MOp} {m : MSt}
    (hrun : mrun t (MSt.init tg n) ops = some m) (h : Nat) (req : List Nat) (inMax scanMax : Nat) (hin : 0 < inMax)
    (skip : Bool) :
    (((bulkLookup m h req inMax scanMax skip).1).map (·.1)).Nodup ∧
    (∀ k f, (k, f) ∈ (bulkLookup m h req inMax scanMax skip).1 → k ∈ req ∧ f = (lookup m h k).1) ∧
    (∀ k ∈ req, ((lookup m h k).1 ≠ .missing ∨ skip = false) → (k, (lookup m h k).1) ∈ (bulkLookup m h req inMax scanMax skip).1) := by
  have _ := wf
  have rp := bulkLookup_reports htg hrun h req inMax scanMax hin skip
  simp only [lookup_fst]
  refine ⟨rp.nodup, fun k f hm => ?_, fun k hk hc => (rp.mem k _).2 ⟨List.mem_eraseDups.2 hk, ?_⟩⟩
  · obtain ⟨hk, hf | ⟨hf, rfl, _⟩⟩ := (rp.mem k f).1 hm <;> exact ⟨List.mem_eraseDups.1 hk, by rw [hf]; rfl⟩
  · cases hf : finder (pin m h).1 m.disk.rows m.disk.loose k with
    | some f => exact .inl rfl
    | none => exact .inr ⟨rfl, rfl, hc.resolve_left fun hn => hn (by rw [hf]; rfl)⟩

theorem bulkLookup_independent {t : Tab} (wf : t.WF) {n tg : Nat} (htg : 0 < tg) {ops : List MOp} {m : MSt}
    (hrun : mrun t (MSt.init tg n) ops = some m) (h : Nat) (req req' : List Nat) (hreq : ∀ k, k ∈ req ↔ k ∈ req')
    (inMax scanMax inMax' scanMax' : Nat) (hin : 0 < inMax) (hin' : 0 < inMax') (skip : Bool) (k : Nat) (f : Found) :
    (k, f) ∈ (bulkLookup m h req inMax scanMax skip).1 ↔ (k, f) ∈ (bulkLookup m h req' inMax' scanMax' skip).1 := by
  have _ := wf
  rw [(bulkLookup_reports htg hrun h req inMax scanMax hin skip).mem,
    (bulkLookup_reports htg hrun h req' inMax' scanMax' hin' skip).mem, List.mem_eraseDups, List.mem_eraseDups, hreq]

end Dos.Multi
