/-
`Emits`: the compiler states reachable by the six things a pack writer does, whatever its options.  Every proof that follows
the compiler is an induction over it, and the case analysis of `wOpenG` is done once, here (`Emits.opener`).
-/
import Dos.Proofs.IOWriter
import Dos.Proofs.OpenCur

namespace Dos.IO

/-- `ks`: the keys written (and indexed) so far -/
inductive Emits (t : Tab) (e : Nat → List Row → List Act) (nh : Bool) (s0 : St) : List Nat → WSt → Prop
  | init : Emits t e nh s0 [] (w0 s0)
  | opn {ks : List Nat} {w : WSt} : Emits t e nh s0 ks w → w.openP = none → w.rows = [] →
      Emits t e nh s0 ks { s := openCur t w.s, openP := some (openCur t w.s).cur, rows := [],
                           acts := w.acts ++ [.lock (openCur t w.s).cur, .pkOpen (openCur t w.s).cur] }
  | same {ks : List Nat} {w : WSt} : Emits t e nh s0 ks w → w.openP = some (openCur t w.s).cur →
      Emits t e nh s0 ks { w with s := openCur t w.s }
  | ends {ks : List Nat} {w : WSt} {q : Nat} : Emits t e nh s0 ks w → w.openP = some q →
      Emits t e nh s0 ks { w with openP := none, rows := [], acts := w.acts ++ e q w.rows }
  /-- the open pack is the one the Level-B rule chooses (the rule needs a positive target size) -/
  | write {ks : List Nat} {w : WSt} (c : Nat) (z : Bool) : Emits t e nh s0 ks w → w.openP = some w.s.cur →
      (0 < s0.target → choosePack t w.s = w.s.cur) →
      Emits t e nh s0 (ks ++ [c]) { w with s := writeObj t w.s c z, rows := w.rows ++ [rowFor t w.s w.s.cur c z],
                                           acts := w.acts ++ [.pkWrite w.s.cur ⟨c, z⟩] }
  /-- only a writer that avoids holes (`nh`) writes something it then truncates back -/
  | wtrunc {ks : List Nat} {w : WSt} (g : Seg) : Emits t e nh s0 ks w → nh = true → w.openP = some w.s.cur →
      Emits t e nh s0 ks { w with acts := w.acts ++ [.pkWrite w.s.cur g, .pkTruncate w.s.cur 1] }
  | read {ks : List Nat} {w : WSt} (k : Nat) : Emits t e nh s0 ks w →
      Emits t e nh s0 ks { w with acts := w.acts ++ [.readLoose k] }

variable {t : Tab} {e : Nat → List Row → List Act} {nh : Bool} {s0 : St} {ks : List Nat} {w : WSt}

theorem Emits.target (h : Emits t e nh s0 ks w) : w.s.target = s0.target := by
  induction h with
  | init => rfl
  | _ => assumption

theorem Emits.rows_nil (h : Emits t e nh s0 ks w) : w.openP = none → w.rows = [] := by
  induction h with
  | init => exact fun _ => rfl
  | ends => exact fun _ => rfl
  | read _ _ ih => exact ih
  | opn => exact fun h => by cases h
  | same _ h1 => exact fun h => by cases h1.symm.trans h
  | write _ _ _ h1 => exact fun h => by cases h1.symm.trans h
  | wtrunc _ _ _ h1 => exact fun h => by cases h1.symm.trans h

theorem wOpenG_s (t : Tab) (e : Nat → List Row → List Act) (w : WSt) : (wOpenG t e w).s = openCur t w.s := by
  unfold wOpenG
  simp only
  split
  · split <;> rfl
  · rfl

theorem wOpenG_openP (t : Tab) (e : Nat → List Row → List Act) (w : WSt) :
    (wOpenG t e w).openP = some (openCur t w.s).cur := by
  unfold wOpenG
  simp only
  split
  · next q hq =>
    split
    · next h => exact hq.trans (congrArg some h)
    · rfl
  · rfl

theorem Emits.opener (h : Emits t e nh s0 ks w) : Emits t e nh s0 ks (wOpenG t e w) := by
  unfold wOpenG
  cases hop : w.openP with
  | none => exact h.opn hop (h.rows_nil hop)
  | some q =>
    by_cases hq : q = (openCur t w.s).cur
    · subst hq
      simp only [if_true]
      exact hop ▸ h.same hop
    · simp only [hq, if_false]
      exact (h.ends hop).opn rfl rfl

theorem Emits.opened (h : Emits t e nh s0 ks w) :
    (wOpenG t e w).openP = some (wOpenG t e w).s.cur ∧
      (0 < s0.target → choosePack t (wOpenG t e w).s = (wOpenG t e w).s.cur) := by
  rw [wOpenG_openP, wOpenG_s]
  exact ⟨rfl, fun ht => choosePack_openCur t w.s (h.target ▸ ht)⟩

/-- The keys are left open (`∃ ks'`): an object that is known already is skipped, or written and truncated back, and
    adds no key.  `Emits.pack` names them: for `pack_all_loose` they say which loose files go. -/
theorem Emits.add (z rt : Bool) (c : Nat) (h : Emits t e nh s0 ks w) :
    ∃ ks', Emits t e nh s0 ks' (wAddG t z nh rt e w c) := by
  have h1 := h.opener
  obtain ⟨hop, hc⟩ := h.opened
  unfold wAddG
  generalize wOpenG t e w = w1 at h1 hop hc
  simp only
  split
  · next hn =>
    split
    · exact ⟨_, h1⟩
    · exact ⟨_, h1.wtrunc _ (Bool.and_eq_true_iff.mp hn).1 hop⟩
  · exact ⟨_, h1.write c z hop hc⟩

theorem Emits.pack (cz : Nat × Bool) (h : Emits t e nh s0 ks w) :
    Emits t e nh s0 (ks ++ [cz.1]) (wPackG t e w cz) := by
  obtain ⟨hop, hc⟩ := h.opened
  have := (h.opener.read cz.1).write cz.1 cz.2 hop hc
  simp only [List.append_assoc, List.cons_append, List.nil_append] at this
  exact this

theorem Emits.foldl_add (z rt : Bool) (cs : List Nat) :
    ∀ {ks w}, Emits t e nh s0 ks w → ∃ ks', Emits t e nh s0 ks' (cs.foldl (wAddG t z nh rt e) w) := by
  induction cs with
  | nil => exact fun h => ⟨_, h⟩
  | cons c cs ih => exact fun h => (h.add z rt c).elim fun _ h1 => ih h1

theorem Emits.foldl_pack (l : List (Nat × Bool)) :
    ∀ {ks w}, Emits t e nh s0 ks w → Emits t e nh s0 (ks ++ l.map (·.1)) (l.foldl (wPackG t e) w) := by
  induction l with
  | nil => exact fun h => by simpa using h
  | cons cz l ih => exact fun h => by simpa using ih (h.pack cz)

theorem Emits.fin (h : Emits t e nh s0 ks w) :
    ∃ w', Emits t e nh s0 ks w' ∧ w'.openP = none ∧ w'.acts = finG e w ∧ w'.s = w.s := by
  unfold finG
  cases hop : w.openP with
  | none => exact ⟨w, h, hop, rfl, rfl⟩
  | some q => exact ⟨_, h.ends hop, rfl, rfl, rfl⟩

theorem wAddG_s (t : Tab) (z nh rt : Bool) (e : Nat → List Row → List Act) (w : WSt) (c : Nat) :
    (wAddG t z nh rt e w c).s = addPackedStep t z nh w.s c := by
  have hs := wOpenG_s t e w
  unfold wAddG addPackedStep
  generalize wOpenG t e w = w1 at hs
  simp only
  rw [← hs]
  split
  · split <;> rfl
  · rfl

theorem foldl_wAddG_s (t : Tab) (z nh rt : Bool) (e : Nat → List Row → List Act) (cs : List Nat) :
    ∀ w, (cs.foldl (wAddG t z nh rt e) w).s = cs.foldl (addPackedStep t z nh) w.s := by
  induction cs with
  | nil => intro w; rfl
  | cons c cs ih => intro w; simp only [List.foldl_cons, ih, wAddG_s]

theorem foldl_wPackG_s (l : List (Nat × Bool)) (ht : 0 < w.s.target) :
    (l.foldl (wPackG t e) w).s = writeAll t w.s l := by
  induction l generalizing w with
  | nil => rfl
  | cons cz l ih =>
    have e1 : (wPackG t e w cz).s = writeObj t w.s cz.1 cz.2 := by
      show writeObj t (wOpenG t e w).s cz.1 cz.2 = _
      rw [wOpenG_s, writeObj_openCur t w.s _ _ ht]
    rw [List.foldl_cons, ih (e1 ▸ ht), e1]
    rfl

end Dos.IO
