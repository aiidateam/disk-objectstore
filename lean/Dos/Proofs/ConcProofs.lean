/-
C04: under every interleaving of loose writers, readers and a packer that respects the ordering discipline, a reader
returns exactly the content of every key that was acknowledged before its query started; and the packer programs of the
library respect the discipline whatever the other actors do in between.
-/
import Dos.Proofs.ConcAux
import Dos.Proofs.ConcWalk

namespace Dos.Conc
open Dos Dos.IO

/-- every acknowledged key stays available: as a loose file or through a committed row -/
theorem acked_available {t : Tab} (wf : t.WF) {s : St} (inv : Inv t s) (hb : Bounded s) (wkeys rkeys : List Nat)
    (hw : ∀ k ∈ wkeys, k < garbage) (sched : List Ev)
    (hd : disciplined t (CSt.init s wkeys rkeys) sched = true) :
    ∀ k ∈ (crun t (CSt.init s wkeys rkeys) sched).acked,
      k ∈ (crun t (CSt.init s wkeys rkeys) sched).x.rows.map (·.key) ∨
      hasLooseX (crun t (CSt.init s wkeys rkeys) sched).x k = true := by
  have _ := hb
  have _ := hw
  exact (cinv_crun sched _ (cinv_init wf inv wkeys rkeys) hd).acked

/-- C04, readers: under every disciplined schedule a finished reader has returned exactly the content of its key if the
    key was acknowledged (or existed) when its query started - never missing, never partial, never another object's bytes -/
theorem reader_correct {t : Tab} (wf : t.WF) {s : St} (inv : Inv t s) (hb : Bounded s) (wkeys rkeys : List Nat)
    (hw : ∀ k ∈ wkeys, k < garbage) (sched : List Ev)
    (hd : disciplined t (CSt.init s wkeys rkeys) sched = true) :
    ∀ r ∈ (crun t (CSt.init s wkeys rkeys) sched).readers, r.pc = 9 → r.key ∈ r.ackedAtStart →
      r.res = some (.ok r.key) := by
  have _ := hb
  have _ := hw
  exact fun r hr hp ha => (((cinv_crun sched _ (cinv_init wf inv wkeys rkeys) hd).rd r hr).p9 hp).resolve_right (·.2 ha)

/-- a finished reader never returns wrong bytes, acknowledged key or not -/
theorem reader_never_wrong {t : Tab} (wf : t.WF) {s : St} (inv : Inv t s) (hb : Bounded s) (wkeys rkeys : List Nat)
    (hw : ∀ k ∈ wkeys, k < garbage) (sched : List Ev)
    (hd : disciplined t (CSt.init s wkeys rkeys) sched = true) :
    ∀ r ∈ (crun t (CSt.init s wkeys rkeys) sched).readers, r.pc = 9 →
      r.res = some (.ok r.key) ∨ r.res = some .missing := by
  have _ := hb
  have _ := hw
  exact fun r hr hp => (((cinv_crun sched _ (cinv_init wf inv wkeys rkeys) hd).rd r hr).p9 hp).imp_right (·.1)

/-- the packer's actions of a schedule, in order; `∃ rest, acts = pkActs sched ++ rest` says that they are a prefix of the
    program `acts` -/
def pkActs : List Ev → List Act
  | [] => []
  | .pk a :: es => a :: pkActs es
  | _ :: es => pkActs es

/-- a schedule whose packer events are a prefix of a sequentially allowed action list is disciplined: the other actors
    do not touch the packs, the index or the open transaction -/
theorem disciplined_of_allowed {t : Tab} (rest : List Act) : ∀ (sched : List Ev) (g : CSt) (y : XSt),
    SyncX g.x y → allowedAll t y (pkActs sched ++ rest) = true → disciplined t g sched = true := by
  intro sched
  induction sched with
  | nil => exact fun _ _ _ _ => rfl
  | cons e es ih =>
    intro g y hs ha
    cases e with
    | pk a =>
      obtain ⟨h1, h2⟩ := Bool.and_eq_true_iff.mp ha
      exact Bool.and_eq_true_iff.mpr ⟨(pkAllowed_sync hs a).trans h1, ih _ _ (exec_sync hs a) h2⟩
    | _ => exact ih _ y (cstep_sync (fun _ => Ev.noConfusion) hs) ha

/-- allowed action by action when run alone from `ofSt s`, hence disciplined under every interleaving that starts from `s` -/
theorem disciplined_init {t : Tab} {s : St} (wkeys rkeys : List Nat) {acts : List Act}
    (h : allowedAll t (ofSt s) acts = true) {sched : List Ev} (hp : ∃ rest, acts = pkActs sched ++ rest) :
    disciplined t (CSt.init s wkeys rkeys) sched = true :=
  hp.elim fun rest hp => disciplined_of_allowed rest sched _ (ofSt s) (SyncX.refl _) (hp ▸ h)

/-- `pack_all_loose` (compiled when it lists the loose folder in state `s`, with or without per-pack cleaning) respects
    the discipline under EVERY interleaving -/
theorem packAll_disciplined {t : Tab} (wf : t.WF) {s : St} (inv : Inv t s) (hb : Bounded s) (wkeys rkeys : List Nat)
    (hw : ∀ k ∈ wkeys, k < garbage) (order : List Nat) (zs : List Bool) (cl : Bool)
    (ho : ∀ k ∈ order, hasLoose s k = true ∧ hasRow s k = false) (hn : order.Nodup) (hz : zs.length = order.length)
    (sched : List Ev) (hp : ∃ rest, actsPackAll t s order zs cl = pkActs sched ++ rest) :
    disciplined t (CSt.init s wkeys rkeys) sched = true := by
  have _ := hb
  have _ := hw
  have _ := ho
  have _ := hn
  have _ := hz
  exact disciplined_init wkeys rkeys (allowed_packAll wf inv order zs cl) hp

/-- `clean_storage` (unlinking loose files of keys that are in the committed index when it looks) respects the discipline
    under every interleaving -/
theorem clean_disciplined {t : Tab} {s : St} (wkeys rkeys : List Nat) (order : List Nat)
    (ho : ∀ k ∈ order, hasRow s k = true) (sched : List Ev) (hp : ∃ rest, actsClean s order = pkActs sched ++ rest) :
    disciplined t (CSt.init s wkeys rkeys) sched = true :=
  disciplined_init wkeys rkeys (allowed_clean s order ho) hp

end Dos.Conc
