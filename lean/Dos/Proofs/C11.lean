/-
Deletion and space reclamation (C11) at Level B.
-/
import Dos.Proofs.Step

namespace Dos

/-- what `delete_objects` returns: the requested keys that existed, each once -/
theorem delete_returns (s : St) (ks : List Nat) :
    (delete s ks).2.Nodup ∧ ∀ k, k ∈ (delete s ks).2 ↔ (k ∈ ks ∧ has s k = true) := by
  refine ⟨eraseDups_nodup _, ?_⟩
  intro k
  simp only [delete, List.mem_eraseDups, List.mem_filter, has, Bool.or_eq_true]
  exact and_congr_right fun _ => or_comm

theorem delete_has (s : St) (ks : List Nat) (k : Nat) :
    has (delete s ks).1 k = (has s k && !ks.contains k) := has_delete s ks k

theorem findRow_delete (s : St) (ks : List Nat) {k : Nat} (hk : k ∉ ks) :
    findRow (delete s ks).1.rows k = findRow s.rows k :=
  find?_filter_of_imp fun r _ hq => by rw [beq_iff_eq.mp hq]; simpa using hk

theorem findLoose_delete (s : St) (ks : List Nat) {k : Nat} (hk : k ∉ ks) :
    findLoose (delete s ks).1.loose k = findLoose s.loose k := by
  unfold findLoose
  exact congrArg _ (find?_filter_of_imp fun e _ hq => by rw [beq_iff_eq.mp hq]; simpa using hk)

theorem delete_others_unchanged (t : Tab) (s : St) (ks : List Nat) {k : Nat} (hk : k ∉ ks) :
    getc t (delete s ks).1 k = getc t s k ∧ getMeta t (delete s ks).1 k = getMeta t s k := by
  have h1 := findRow_delete s ks hk
  have h2 := findLoose_delete s ks hk
  constructor
  · unfold getc
    rw [h1, h2]
    rfl
  · unfold getMeta
    rw [h1, h2]

theorem delete_packs (s : St) (ks : List Nat) : (delete s ks).1.packs = s.packs := rfl

/-- the segments of a pack as its live rows describe them, in offset order -/
def liveSegs (s : St) (p : Nat) : List Seg := (sortByOff (rowsOfPack s.rows p)).map (fun r => (⟨r.key, r.z⟩ : Seg))

/-- position by position: the row of `a` has the key of the row of `b` there, and that row is the one its key finds -/
theorem map_findRow_eq (a b : List Row) (hk : a.map (·.key) = b.map (·.key)) (nd : (b.map (·.key)).Nodup) :
    a.map (fun r => (findRow b r.key).getD r) = b := by
  have hl : a.length = b.length := by simpa using congrArg List.length hk
  refine List.ext_getElem (by rw [List.length_map, hl]) fun i h1 h2 => ?_
  have hi := List.getElem_of_eq hk (i := i) (by rw [List.length_map, hl]; exact h2)
  rw [List.getElem_map, List.getElem_map] at hi
  rw [List.getElem_map, hi, findRow_of_mem nd (List.getElem_mem h2)]
  rfl

theorem rowsOfPack_map {rows : List Row} {f : Row → Row} (p : Nat) (hf : ∀ r ∈ rows, (f r).pack = r.pack) :
    rowsOfPack (rows.map f) p = (rowsOfPack rows p).map f := by
  unfold rowsOfPack
  rw [List.filter_map]
  exact congrArg (List.map f) (List.filter_congr fun r hr => congrArg (· == p) (hf r hr))

theorem sortByOff_eq_of_perm {l l' : List Row} (hs : l'.Pairwise (fun a b => rowBefore a b = true))
    (hp : l.Perm l') : sortByOff l = l' := by
  have hperm : (sortByOff l).Perm l' := (sortByOff_perm l).trans hp
  refine List.Perm.eq_of_pairwise (le := rowLe) ?_ (sortByOff_sorted l) ?_ hperm
  · intro a b ha hb hab hba
    rcases pairwise_trichotomy hs (hperm.subset ha) hb with h | h | h
    · exact h
    · exact absurd h (rowLe_iff_not_rowBefore.mp hba)
    · exact absurd h (rowLe_iff_not_rowBefore.mp hab)
  · exact hs.imp (fun h => rowLe_of_rowBefore h)

theorem rebuilt_sorted {t : Tab} {s : St} (inv : Inv t s) (p : Nat) (zs : List Bool) :
    (rebuilt t s p p zs).Pairwise (fun a b => rowBefore a b = true) := by
  refine (rebuilt_ordered inv p p zs).imp fun {a b} h => (rowBefore_iff a b).mpr ?_
  exact (Nat.lt_or_eq_of_le (Nat.le_trans (Nat.le_add_right ..) h.2)).imp_right (⟨·, h.1⟩)

theorem rows_rebuilt {t : Tab} {s : St} (inv : Inv t s) (p : Nat) (zs : List Bool) :
    sortByOff (rowsOfPack (movedRows t s p p zs) p) = rebuilt t s p p zs := by
  apply sortByOff_eq_of_perm (rebuilt_sorted inv p zs)
  rw [rowsOfPack_map p (fun r hr => repackRow_pack inv p zs hr)]
  -- on the rows of pack `p` the update is the lookup among the rebuilt rows, which have the same keys in the same order
  have hmap : (srt s p).map (repackRow p (rebuilt t s p p zs)) = rebuilt t s p p zs :=
    (List.map_congr_left fun r hr => repackRow_of_eq _ (mem_rowsOfPack.mp (mem_sortByOff.mp hr)).2).trans
      (map_findRow_eq _ _ (rebuild_keys ..).symm (by rw [rebuild_keys]; exact srt_map_nodup inv.keys_nodup p))
  have hperm := ((sortByOff_perm (rowsOfPack s.rows p)).map (repackRow p (rebuilt t s p p zs))).symm
  rwa [hmap] at hperm

theorem rowsOfPack_rebuilt_ne {t : Tab} {s : St} (inv : Inv t s) (p : Nat) (zs : List Bool) {q : Nat} (hq : q ≠ p) :
    rowsOfPack (movedRows t s p p zs) q = rowsOfPack s.rows q := by
  rw [rowsOfPack_map q (fun r hr => repackRow_pack inv p zs hr)]
  refine (List.map_congr_left fun r hr => ?_).trans (List.map_id _)
  exact repackRow_of_ne _ ((mem_rowsOfPack.mp hr).2 ▸ hq)

theorem repackPack_compacts {t : Tab} {s s' : St} (inv : Inv t s) {m : Mode} {p : Nat} {order : List Nat} {zs : List Bool}
    (h : repackPack t s m p order zs = some s') :
    (rowsOfPack s'.rows p = [] → getPack s'.packs p = none) ∧
    (rowsOfPack s'.rows p ≠ [] → getPack s'.packs p = some (liveSegs s' p)) ∧
    (∀ q, q ≠ p → getPack s'.packs q = getPack s.packs q ∧ rowsOfPack s'.rows q = rowsOfPack s.rows q) := by
  rcases repackPack_eq_some.mp h with ⟨hnil, _, rfl⟩ | ⟨hne, _, _, _, rfl⟩
  · exact ⟨fun _ => getPack_erasePack_eq _ _, fun hne => absurd hnil hne,
      fun q hq => ⟨getPack_erasePack_ne hq, rfl⟩⟩
  · have hrows := rows_rebuilt inv p zs
    refine ⟨fun hnil => ?_, fun _ => ?_, fun q hq => ⟨getPack_setPack_ne hq, rowsOfPack_rebuilt_ne inv p zs hq⟩⟩
    · -- the rows of the pack are still there, moved
      have hmoved := rowsOfPack_map p fun r hr => repackRow_pack inv p zs hr
      exact absurd (List.map_eq_nil_iff.mp (hmoved.symm.trans hnil)) hne
    · rw [liveSegs, hrows, getPack_setPack_eq, rebuild_segs]

/-- pack `p` either does not exist or is exactly the concatenation of its live objects -/
def Compact (s : St) (p : Nat) : Prop :=
  ∀ segs, getPack s.packs p = some segs → rowsOfPack s.rows p ≠ [] ∧ segs = liveSegs s p

theorem compact_repackPack_self {t : Tab} {s s' : St} (inv : Inv t s) {m : Mode} {p : Nat} {order : List Nat}
    {zs : List Bool} (h : repackPack t s m p order zs = some s') : Compact s' p := by
  obtain ⟨h1, h2, _⟩ := repackPack_compacts inv h
  intro segs hs
  by_cases hn : rowsOfPack s'.rows p = []
  · cases (h1 hn).symm.trans hs
  · exact ⟨hn, Option.some.inj (hs.symm.trans (h2 hn))⟩

theorem compact_repackPack_other {t : Tab} {s s' : St} (inv : Inv t s) {m : Mode} {p q : Nat} {order : List Nat}
    {zs : List Bool} (h : repackPack t s m p order zs = some s') (hq : q ≠ p) (hc : Compact s q) : Compact s' q := by
  obtain ⟨hg, hr⟩ := (repackPack_compacts inv h).2.2 q hq
  intro segs hs
  obtain ⟨c1, c2⟩ := hc segs (hg ▸ hs)
  exact ⟨hr ▸ c1, by rw [c2, liveSegs, liveSegs, hr]⟩

theorem repackAll_compacts_aux {t : Tab} {m : Mode} {plan : List (Nat × List Nat × List Bool)} {s s' : St}
    (inv : Inv t s) (h : repackAll t m s plan = some s') (hc : ∀ p, p ∈ plan.map (·.1) ∨ Compact s p) :
    ∀ p, Compact s' p := by
  induction plan generalizing s with
  | nil => exact repackAll_nil_eq_some.mp h ▸ fun p => (hc p).resolve_left List.not_mem_nil
  | cons e rest ih =>
    obtain ⟨s1, hs1, h⟩ := repackAll_cons_eq_some.mp h
    refine ih (inv_repackPack inv hs1) h fun q => ?_
    by_cases hq : q = e.1
    · exact Or.inr (hq ▸ compact_repackPack_self inv hs1)
    · exact ((hc q).imp_left fun hm => (List.mem_cons.mp hm).resolve_left hq).imp id (compact_repackPack_other inv hs1 hq)

/-- a full repack (a plan naming every pack file) leaves every pack equal to the concatenation of its live objects
    and removes packs without live objects -/
theorem repackAll_compacts {t : Tab} {m : Mode} {plan : List (Nat × List Nat × List Bool)} {s s' : St} (inv : Inv t s)
    (h : repackAll t m s plan = some s') (cover : ∀ p ∈ s.packs.map (·.1), p ∈ plan.map (·.1)) :
    ∀ p segs, getPack s'.packs p = some segs → rowsOfPack s'.rows p ≠ [] ∧ segs = liveSegs s' p := by
  refine repackAll_compacts_aux inv h fun p => ?_
  by_cases hp : p ∈ s.packs.map (·.1)
  · exact Or.inl (cover p hp)
  · exact Or.inr fun segs hs => absurd (mem_keys_of_getPack hs) hp

end Dos
