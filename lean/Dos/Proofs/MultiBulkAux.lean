/-
The bulk lookup as a chain of stages (index snapshot, loose files, current index), against the one-key `lookup` as a chain
of finders.
-/
import Dos.MultiBulk
import Dos.Proofs.MultiProofs
import Dos.Proofs.MergeProofs

namespace Dos.Multi
open Dos.Merge

theorem filterMap_findRow_keys (rows : List Row) (l : List Nat) (hl : ∀ k ∈ l, k ∈ rows.map (·.key)) :
    (l.filterMap (fun k => findRow rows k)).map (·.key) = l := by
  induction l with
  | nil => rfl
  | cons a l ih =>
    obtain ⟨ha, hl⟩ := List.forall_mem_cons.1 hl
    cases hf : findRow rows a with
    | none => exact absurd ha (findRow_none_iff.mp hf)
    | some r => rw [List.filterMap_cons_some hf, List.map_cons, (findRow_some hf).2, ih hl]

/-- `findRows` finds each requested key that the index holds once, with the row `findRow` finds for it -/
theorem findRows_spec {rows : List Row} {ks : List Nat} (hr : (rows.map (·.key)).Nodup) (hk : ks.Nodup)
    (inMax scanMax : Nat) (hin : 0 < inMax) :
    ((findRows rows ks inMax scanMax).map (·.key)).Nodup ∧
    ∀ r, r ∈ findRows rows ks inMax scanMax ↔ r.key ∈ ks ∧ findRow rows r.key = some r := by
  obtain ⟨hn, hs⟩ := bulkFind_spec _ ks hr hk inMax scanMax hin
  unfold findRows
  refine ⟨?_, fun r => ?_⟩
  · rwa [filterMap_findRow_keys rows _ fun k h => ((hs k).1 h).1]
  · rw [List.mem_filterMap]
    constructor
    · rintro ⟨k, hkm, hf⟩
      cases (findRow_some hf).2
      exact ⟨((hs _).1 hkm).2, hf⟩
    · rintro ⟨h1, h2⟩
      exact ⟨r.key, (hs _).2 ⟨List.mem_map_of_mem (findRow_some h2).1, h1⟩, h2⟩

theorem findRows_nil (rows : List Row) (inMax scanMax : Nat) : findRows rows [] inMax scanMax = [] := by
  simp [findRows, bulkFind, chunkIter, chunks]

/-- what `lookup` reports, as a chain of finders over the pinned rows, the loose files and the current rows -/
def finder (rows cur : List Row) (loose : List (Nat × Nat)) (k : Nat) : Option Found :=
  (findRow rows k).map Found.packed <|> ((findLoose loose k).map Found.loose <|> ((findRow cur k).map Found.packed <|> none))

theorem lookup_fst (m : MSt) (h k : Nat) :
    (lookup m h k).1 = (finder (pin m h).1 m.disk.rows m.disk.loose k).getD .missing := by
  unfold lookup finder
  simp only
  cases findRow (pin m h).1 k <;> cases findLoose m.disk.loose k <;> cases findRow m.disk.rows k <;> rfl

/-! The bulk lookup is a chain of stages.  A stage has a finder `g`; run on a work-list it reports the keys `g` finds and
leaves the others to the next stage.  Stages compose by `<|>` on their finders (`Stage.andThen`); `lookup`, written with
nested `match`, reports what such a chain of finders finds (`lookup_fst`). -/

/-- one stage run on the duplicate-free work-list `ks` -/
structure Stage (g : Nat → Option Found) (ks : List Nat) (out : List (Nat × Found)) (rest : List Nat) : Prop where
  out_nodup : (out.map (·.1)).Nodup
  mem_out : ∀ k f, (k, f) ∈ out ↔ k ∈ ks ∧ g k = some f
  rest_nodup : rest.Nodup
  mem_rest : ∀ k, k ∈ rest ↔ k ∈ ks ∧ g k = none

/-- what the stages from some point on deliver for the work-list `ks`, exactly: each key at most once, with what `g` finds
    for it; a key for which it finds nothing is reported as missing unless skipped -/
structure Reports (skip : Bool) (g : Nat → Option Found) (ks : List Nat) (out : List (Nat × Found)) : Prop where
  nodup : (out.map (·.1)).Nodup
  mem : ∀ k f, (k, f) ∈ out ↔ k ∈ ks ∧ (g k = some f ∨ g k = none ∧ f = .missing ∧ skip = false)

theorem Reports.nil (skip : Bool) (g : Nat → Option Found) : Reports skip g [] [] :=
  ⟨List.nodup_nil, fun _ _ => by simp⟩

theorem Reports.last (skip : Bool) {rest : List Nat} (hn : rest.Nodup) :
    Reports skip (fun _ => none) rest (if skip then [] else rest.map (fun k => (k, Found.missing))) := by
  cases skip
  · exact ⟨by rwa [if_neg Bool.false_ne_true, map_fst_map_pair], fun k f => by simp [mem_map_pair]⟩
  · exact ⟨List.nodup_nil, fun k f => by simp⟩

theorem Stage.andThen {skip : Bool} {g g' : Nat → Option Found} {ks rest : List Nat} {out out' : List (Nat × Found)}
    (st : Stage g ks out rest) (rp : Reports skip g' rest out') :
    Reports skip (fun k => g k <|> g' k) ks (out ++ out') := by
  refine ⟨?_, fun k f => ?_⟩
  · rw [List.map_append, List.nodup_append]
    refine ⟨st.out_nodup, rp.nodup, ?_⟩
    -- a key reported by the stage was found by it, a key reported later was left over by it
    rintro _ ha _ hb rfl
    obtain ⟨⟨k, f⟩, hf, rfl⟩ := List.mem_map.1 ha
    obtain ⟨⟨k', f'⟩, hf', hk⟩ := List.mem_map.1 hb
    simp only at hk; subst hk
    have h1 := ((st.mem_out k' f).1 hf).2
    have h2 := ((st.mem_rest k').1 ((rp.mem k' f').1 hf').1).2
    cases h1.symm.trans h2
  · rw [List.mem_append, st.mem_out, rp.mem, st.mem_rest]
    -- found by the stage (`some`): reported by it and by nothing later; else (`none`): up to the later stages
    cases g k <;>
      simp only [Option.some.injEq, reduceCtorEq, and_false, and_true, false_and, false_or, or_false,
        Option.orElse_eq_orElse, Option.orElse_eq_or, Option.none_or, Option.some_or]

/-- the index stage, for any list `hit` of the rows found (`findRows_spec`: `findRows` gives one) -/
theorem stage_hits {rows hit : List Row} {ks : List Nat} (hk : ks.Nodup) (hn : (hit.map (·.key)).Nodup)
    (hm : ∀ r, r ∈ hit ↔ r.key ∈ ks ∧ findRow rows r.key = some r) :
    Stage (fun k => (findRow rows k).map .packed) ks (hit.map (fun r => (r.key, Found.packed r)))
      (ks.filter (fun k => !(hit.map (·.key)).contains k)) := by
  refine ⟨by rwa [List.map_map], fun k f => ?_, hk.sublist List.filter_sublist, fun k => ?_⟩
  · simp only [List.mem_map, hm, Prod.mk.injEq, Option.map_eq_some_iff]
    constructor
    · rintro ⟨r, ⟨h1, h2⟩, rfl, rfl⟩
      exact ⟨h1, r, h2, rfl⟩
    · rintro ⟨h1, r, h2, rfl⟩
      cases (findRow_some h2).2
      exact ⟨r, ⟨h1, h2⟩, rfl, rfl⟩
  · -- left over: requested, and the key of no hit, that is, of no row
    rw [List.mem_filter, Bool.not_eq_true', ← Bool.not_eq_true, List.contains_iff_mem, List.mem_map,
      Option.map_eq_none_iff]
    refine and_congr_right fun h => ⟨fun hno => ?_, fun hno ⟨r, hr, e⟩ => ?_⟩
    · cases hf : findRow rows k with
      | none => rfl
      | some r =>
        cases (findRow_some hf).2
        exact absurd ⟨r, (hm r).2 ⟨h, hf⟩, rfl⟩ hno
    · cases e
      exact nomatch ((hm r).1 hr).2.symm.trans hno

theorem stage_loose (loose : List (Nat × Nat)) {ks : List Nat} (hk : ks.Nodup) :
    Stage (fun k => (findLoose loose k).map .loose) ks
      (ks.filterMap (fun k => (findLoose loose k).map (fun c => (k, Found.loose c))))
      (ks.filter (fun k => (findLoose loose k).isNone)) := by
  refine ⟨?_, fun k f => ?_, hk.sublist List.filter_sublist, fun k => ?_⟩
  · -- what is reported for `a` carries the key `a`
    refine List.pairwise_map.2 (List.Pairwise.filterMap _ (fun a a' hne b hb b' hb' => ?_) hk)
    obtain ⟨_, _, rfl⟩ := Option.map_eq_some_iff.1 hb
    obtain ⟨_, _, rfl⟩ := Option.map_eq_some_iff.1 hb'
    exact hne
  · simp only [List.mem_filterMap, Option.map_eq_some_iff, Prod.mk.injEq]
    constructor
    · rintro ⟨a, ha, c, hc, rfl, rfl⟩
      exact ⟨ha, c, hc, rfl⟩
    · rintro ⟨ha, c, hc, rfl⟩
      exact ⟨k, ha, c, hc, rfl, rfl⟩
  · rw [List.mem_filter, Option.isNone_iff_eq_none, Option.map_eq_none_iff]

/-- the report of the bulk lookup, exactly: batch size and threshold are not in it, the request only as a set -/
theorem bulkLookup_reports_of {m : MSt} {h : Nat} (hr : ((pin m h).1.map (·.key)).Nodup)
    (hc : (m.disk.rows.map (·.key)).Nodup) (req : List Nat) (inMax scanMax : Nat) (hin : 0 < inMax) (skip : Bool) :
    Reports skip (finder (pin m h).1 m.disk.rows m.disk.loose) req.eraseDups
      (bulkLookup m h req inMax scanMax skip).1 := by
  have f1 := findRows_spec hr (eraseDups_nodup req) inMax scanMax hin
  have s1 := stage_hits (eraseDups_nodup req) f1.1 f1.2
  have s2 := stage_loose m.disk.loose s1.rest_nodup
  unfold bulkLookup
  simp only
  split
  · -- nothing is left after the loose files: the third stage is not run
    next heq =>
    have rp := s1.andThen (s2.andThen (heq ▸ Reports.nil skip fun k => (findRow m.disk.rows k).map Found.packed <|> none))
    rwa [List.append_nil] at rp
  · have f3 := findRows_spec hc s2.rest_nodup inMax scanMax hin
    have s3 := stage_hits s2.rest_nodup f3.1 f3.2
    have rp := s1.andThen (s2.andThen (s3.andThen (Reports.last skip s3.rest_nodup)))
    rwa [← List.append_assoc, ← List.append_assoc] at rp

end Dos.Multi
