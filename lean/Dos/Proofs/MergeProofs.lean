/-
C16, helper level: `detect_where_sorted` classifies every element of two strictly sorted sequences exactly once and
correctly, rejects unsorted input; `chunk_iterator` partitions; the two lookup strategies of the bulk operations give
the same answer for every batch size and threshold.
-/
import Dos.Merge
import Dos.Proofs.ListAux

namespace Dos.Merge

theorem classify_nil_left (r : List Nat) : classify [] r = r.map (fun y => (y, Loc.right)) := by
  rw [classify]

theorem classify_nil_right (l : List Nat) : classify l [] = l.map (fun x => (x, Loc.left)) := by
  cases l <;> simp [classify]

theorem classify_cons_cons (x y : Nat) (xs ys : List Nat) :
    classify (x :: xs) (y :: ys) =
      if x = y then (x, Loc.both) :: classify xs ys
      else if x < y then (x, Loc.left) :: classify xs (y :: ys)
      else (y, Loc.right) :: classify (x :: xs) ys := by
  rw [classify]

theorem classify_lt {x y : Nat} (h : x < y) (xs ys : List Nat) :
    classify (x :: xs) (y :: ys) = (x, Loc.left) :: classify xs (y :: ys) := by
  rw [classify_cons_cons, if_neg (Nat.ne_of_lt h), if_pos h]

theorem classify_gt {x y : Nat} (h : y < x) (xs ys : List Nat) :
    classify (x :: xs) (y :: ys) = (y, Loc.right) :: classify (x :: xs) ys := by
  rw [classify_cons_cons, if_neg (Nat.ne_of_gt h), if_neg (Nat.lt_asymm h)]

theorem classify_eq (x : Nat) (xs ys : List Nat) :
    classify (x :: xs) (x :: ys) = (x, Loc.both) :: classify xs ys := by
  rw [classify_cons_cons, if_pos rfl]

theorem strictSorted_nil : strictSorted [] = true := rfl
theorem strictSorted_single (a : Nat) : strictSorted [a] = true := rfl

theorem strictSorted_cons_cons (a b : Nat) (l : List Nat) :
    strictSorted (a :: b :: l) = (decide (a < b) && strictSorted (b :: l)) := by
  rw [strictSorted]

theorem strictSorted_iff (l : List Nat) : strictSorted l = true ↔ l.Pairwise (· < ·) := by
  fun_induction strictSorted l with
  | case1 => exact iff_of_true rfl .nil
  | case2 a => exact iff_of_true rfl (List.pairwise_singleton ..)
  | case3 a b l ih => rw [Bool.and_eq_true, ih, decide_eq_true_eq, pairwise_lt_cons_cons]

theorem strictSorted_cons_cons_lt {a b : Nat} (h : ¬ b ≤ a) (l : List Nat) :
    strictSorted (a :: b :: l) = strictSorted (b :: l) := by
  rw [strictSorted_cons_cons, decide_eq_true (Nat.lt_of_not_le h), Bool.true_and]

theorem strictSorted_cons_cons_ge {a b : Nat} (h : b ≤ a) (l : List Nat) :
    strictSorted (a :: b :: l) = false := by
  rw [strictSorted_cons_cons, decide_eq_false (Nat.not_lt.2 h), Bool.false_and]

/-- `s.L`, `s.R`: the parts of the two inputs not yet yielded -/
def MS.L (s : MS) : List Nat := if s.lEx then [] else s.lastL :: s.restL
def MS.R (s : MS) : List Nat := if s.rEx then [] else s.lastR :: s.restR

/-- the generator's own invariant: the side it is looking at is not exhausted (unless both are) -/
def MS.I (s : MS) : Prop :=
  (s.lEx = true ∧ s.rEx = true) ∨ (if s.nowLeft then s.lEx = false else s.rEx = false)

/-- what one pass of the loop body does, in terms of the remaining inputs -/
def StepPost (s : MS) : (Nat × Loc) × (Except MErr MS) → Prop
  | (_, .error _) => strictSorted s.L = false ∨ strictSorted s.R = false
  | (item, .ok s') =>
      s'.I ∧ classify s.L s.R = item :: classify s'.L s'.R ∧
      strictSorted s'.L = strictSorted s.L ∧ strictSorted s'.R = strictSorted s.R ∧
      s'.L.length + s'.R.length < s.L.length + s.R.length

/-! `bodyStep` is a pipeline of three parts: choose the element to yield (and whether both sides advance, and the
possibly switched `now_left`), advance the left iterator, advance the right one.  They are named here word for word
(`bodyStep_eq` holds by `rfl`), so that each has its own lemma and `bodyStep_post` only puts the three together. -/

def pick (s : MS) : (Nat × Loc) × Bool × Bool :=
  if s.nowLeft then
    if s.rEx then ((s.lastL, .left), false, true)
    else if s.lastL = s.lastR then ((s.lastL, .both), true, true)
    else if s.lastL < s.lastR then ((s.lastL, .left), false, true)
    else ((s.lastR, .right), false, false)
  else if s.lEx then ((s.lastR, .right), false, false)
  else if s.lastL = s.lastR then ((s.lastL, .both), true, false)
  else if s.lastL > s.lastR then ((s.lastR, .right), false, false)
  else ((s.lastL, .left), false, true)

def advL (s : MS) (nl : Bool) : Except MErr (MS × Bool) :=
  match s.restL with
  | x :: xs => if x ≤ s.lastL then .error .leftUnsorted else .ok ({ s with lastL := x, restL := xs }, nl)
  | [] => .ok ({ s with lEx := true }, false)

def advR (s : MS) (item : Nat × Loc) (nn : Bool) : (Nat × Loc) × Except MErr MS :=
  match s.restR with
  | y :: ys => if y ≤ s.lastR then (item, .error .rightUnsorted)
               else (item, .ok { s with lastR := y, restR := ys, nowLeft := nn })
  | [] => (item, .ok { s with rEx := true, nowLeft := true })

def setNow (s : MS) (n : Bool) : MS := { s with nowLeft := n }

theorem L_now (s : MS) (n : Bool) : (setNow s n).L = s.L := rfl
theorem R_now (s : MS) (n : Bool) : (setNow s n).R = s.R := rfl

theorem bodyStep_eq (s : MS) : bodyStep s =
    match (if (pick s).2.2 || (pick s).2.1 then advL s (pick s).2.2 else .ok (s, (pick s).2.2)) with
    | .error e => ((pick s).1, .error e)
    | .ok (s1, nn) =>
      if !(pick s).2.2 || (pick s).2.1 then advR s1 (pick s).1 nn else ((pick s).1, .ok (setNow s1 nn)) :=
  rfl

/-- the generator picks what `classify` picks -/
theorem pick_spec (s : MS) (hI : s.I) (hne : ¬ (s.lEx = true ∧ s.rEx = true)) :
    (pick s = ((s.lastL, .left), false, true) ∧ s.lEx = false ∧
      classify s.L s.R = (s.lastL, .left) :: classify s.L.tail s.R) ∨
    (pick s = ((s.lastR, .right), false, false) ∧ s.rEx = false ∧
      classify s.L s.R = (s.lastR, .right) :: classify s.L s.R.tail) ∨
    (pick s = ((s.lastL, .both), true, s.nowLeft) ∧ s.lEx = false ∧ s.rEx = false ∧
      classify s.L s.R = (s.lastL, .both) :: classify s.L.tail s.R.tail) := by
  obtain ⟨a, b, xs, ys, lEx, rEx, nl⟩ := s
  cases lEx <;> cases rEx
  · rcases Nat.lt_trichotomy a b with h | rfl | h
    · refine .inl ⟨?_, rfl, classify_lt h xs ys⟩
      cases nl <;> simp [pick, h, Nat.ne_of_lt h, Nat.lt_asymm h]
    · refine .inr (.inr ⟨?_, rfl, rfl, classify_eq a xs ys⟩)
      cases nl <;> simp [pick]
    · refine .inr (.inl ⟨?_, rfl, classify_gt h xs ys⟩)
      cases nl <;> simp [pick, h, Nat.ne_of_gt h, Nat.lt_asymm h]
  · -- the right side is exhausted: by `I` the generator looks at the left one
    cases (show nl = true by simpa [MS.I] using hI)
    refine .inl ⟨rfl, rfl, ?_⟩
    show classify (a :: xs) [] = _ :: classify xs []
    rw [classify_nil_right, classify_nil_right]; rfl
  · cases (show nl = false by simpa [MS.I] using hI)
    refine .inr (.inl ⟨rfl, rfl, ?_⟩)
    show classify [] (b :: ys) = _ :: classify [] ys
    rw [classify_nil_left, classify_nil_left]; rfl
  · exact absurd ⟨rfl, rfl⟩ hne

theorem advL_spec {s : MS} (nl : Bool) (h : s.lEx = false) :
    match advL s nl with
    | .error _ => strictSorted s.L = false
    | .ok (s1, nn) => s.L = s.lastL :: s1.L ∧ strictSorted s1.L = strictSorted s.L ∧ s1.R = s.R ∧ s1.rEx = s.rEx ∧
        nn = (nl && !s1.lEx) := by
  obtain ⟨a, b, xs, ys, lEx, rEx, nl0⟩ := s
  simp only at h; subst h
  rcases xs with _ | ⟨x, xs⟩
  · simp [advL, MS.L, MS.R, strictSorted_single, strictSorted_nil]
  · by_cases hx : x ≤ a
    · simp [advL, MS.L, hx, strictSorted_cons_cons_ge hx]
    · simp [advL, MS.L, MS.R, hx, strictSorted_cons_cons_lt hx]

theorem advR_spec {s : MS} (item : Nat × Loc) (nn : Bool) (h : s.rEx = false) (hn : nn = true → s.lEx = false) :
    match advR s item nn with
    | (_, .error _) => strictSorted s.R = false
    | (it, .ok s') => it = item ∧ s'.I ∧ s'.L = s.L ∧ s.R = s.lastR :: s'.R ∧ strictSorted s'.R = strictSorted s.R := by
  obtain ⟨a, b, xs, ys, lEx, rEx, nl0⟩ := s
  simp only at h hn; subst h
  rcases ys with _ | ⟨y, ys⟩
  · simp [advR, MS.L, MS.R, MS.I, strictSorted_single, strictSorted_nil]
  · by_cases hy : y ≤ b
    · simp [advR, MS.R, hy, strictSorted_cons_cons_ge hy]
    · simp [advR, MS.L, MS.R, MS.I, hy, strictSorted_cons_cons_lt hy]
      exact hn

theorem bodyStep_post (s : MS) (hI : s.I) (hne : ¬ (s.lEx = true ∧ s.rEx = true)) :
    StepPost s (bodyStep s) := by
  rw [bodyStep_eq]
  rcases pick_spec s hI hne with ⟨hp, hl, hc⟩ | ⟨hp, hr, hc⟩ | ⟨hp, hl, hr, hc⟩
  · -- the left element is yielded: only the left iterator advances
    rw [hp]
    simp only [Bool.or_false, Bool.not_true, Bool.false_eq_true, if_true, if_false]
    have := advL_spec true hl
    generalize advL s true = q at this ⊢
    obtain e | ⟨s1, nn⟩ := q
    · exact Or.inl this
    · obtain ⟨h1, h2, h3, h4, h5⟩ := this
      refine ⟨?_, by rw [L_now, R_now, hc, h1, h3]; rfl, h2, by rw [R_now, h3],
        by rw [L_now, R_now, h1, h3]; exact Nat.add_lt_add_right (Nat.lt_succ_self _) _⟩
      simp only [MS.I, setNow, h4, h5]
      cases s.rEx <;> simp
  · -- the right element is yielded: only the right iterator advances
    rw [hp]
    simp only [Bool.or_false, Bool.not_false, Bool.false_eq_true, if_true, if_false]
    have := advR_spec (s.lastR, .right) false hr (by simp)
    generalize advR s (s.lastR, .right) false = q at this ⊢
    obtain ⟨it, e | s'⟩ := q
    · exact Or.inr this
    · obtain ⟨rfl, hI', h1, h2, h3⟩ := this
      exact ⟨hI', by rw [hc, h1, h2]; rfl, by rw [h1], h3,
        by rw [h1, h2]; exact Nat.add_lt_add_left (Nat.lt_succ_self _) _⟩
  · -- equal heads: both iterators advance, the left one first
    rw [hp]
    simp only [Bool.or_true, if_true]
    have := advL_spec s.nowLeft hl
    generalize advL s s.nowLeft = q at this ⊢
    obtain e | ⟨s1, nn⟩ := q
    · exact Or.inl this
    · obtain ⟨h1, h2, h3, h4, h5⟩ := this
      show StepPost s (advR s1 (s.lastL, .both) nn)
      have := advR_spec (s.lastL, .both) nn (h4.trans hr) (by simp [h5])
      generalize advR s1 (s.lastL, .both) nn = q at this ⊢
      obtain ⟨it, e | s'⟩ := q
      · exact Or.inr (h3 ▸ this)
      · obtain ⟨rfl, hI', g1, g2, g3⟩ := this
        rw [h3] at g2 g3
        exact ⟨hI', by rw [hc, g1, h1, g2]; rfl, by rw [g1, h2], g3,
          by rw [g1, h1, g2]; exact Nat.add_lt_add (Nat.lt_succ_self _) (Nat.lt_succ_self _)⟩

theorem loop_post (fuel : Nat) (s : MS) (acc : List (Nat × Loc)) (hI : s.I) (hf : s.L.length + s.R.length ≤ fuel) :
    if strictSorted s.L = true ∧ strictSorted s.R = true then
      loop fuel s acc = (acc.reverse ++ classify s.L s.R, none)
    else (loop fuel s acc).2 ≠ none := by
  fun_induction loop fuel s acc with
  | case1 s acc =>
    have ⟨hL, hR⟩ := Nat.add_eq_zero_iff.1 (Nat.le_zero.1 hf)
    simp [List.eq_nil_of_length_eq_zero hL, List.eq_nil_of_length_eq_zero hR, classify_nil_left, strictSorted_nil]
  | case2 f s acc hex =>
    rw [Bool.and_eq_true] at hex
    simp [MS.L, MS.R, hex, classify_nil_left, strictSorted_nil]
  | case3 f s acc hne item e hb =>
    have hp := hb ▸ bodyStep_post s hI (by rwa [Bool.and_eq_true] at hne)
    rw [if_neg (by rcases hp with h | h <;> simp [h])]
    nofun
  | case4 f s acc hne item s' hb ih =>
    obtain ⟨hI', hc, hl', hr', hlen⟩ := hb ▸ bodyStep_post s hI (by rwa [Bool.and_eq_true] at hne)
    have := ih hI' (Nat.le_of_lt_succ (Nat.lt_of_lt_of_le hlen hf))
    rw [hl', hr'] at this
    simpa [hc] using this

def initMS (l r : List Nat) : MS :=
  { lastL := l.headD 0, lastR := r.headD 0, restL := l.tail, restR := r.tail, lEx := l.isEmpty, rEx := r.isEmpty,
    nowLeft := !(l.isEmpty || (!r.isEmpty && l.headD 0 > r.headD 0)) }

theorem detect_eq_loop (l r : List Nat) : detect l r = loop (l.length + r.length + 1) (initMS l r) [] := by
  cases l <;> cases r <;> rfl

theorem initMS_L (l r : List Nat) : (initMS l r).L = l := by
  cases l <;> rfl

theorem initMS_R (l r : List Nat) : (initMS l r).R = r := by
  cases r <;> rfl

theorem initMS_I (l r : List Nat) : (initMS l r).I := by
  cases l <;> cases r <;> simp [initMS, MS.I]

theorem detect_post (l r : List Nat) :
    if strictSorted l = true ∧ strictSorted r = true then detect l r = (classify l r, none)
    else (detect l r).2 ≠ none := by
  have := loop_post (l.length + r.length + 1) (initMS l r) [] (initMS_I l r) (by rw [initMS_L, initMS_R]; exact Nat.le_succ _)
  rwa [initMS_L, initMS_R, ← detect_eq_loop] at this

/-- on strictly sorted inputs the generator terminates without error and yields exactly the two-pointer classification -/
theorem detect_spec (l r : List Nat) (hl : strictSorted l = true) (hr : strictSorted r = true) :
    detect l r = (classify l r, none) := by
  have := detect_post l r
  rwa [if_pos ⟨hl, hr⟩] at this

/-- any adjacent non-increasing pair on either side ends in the error (when one side runs out, the generator goes on
    through the other and still checks its order) -/
theorem detect_rejects (l r : List Nat) (h : strictSorted l = false ∨ strictSorted r = false) :
    (detect l r).2 ≠ none := by
  have := detect_post l r
  rwa [if_neg (by rcases h with h | h <;> simp [h])] at this

/-- where an element of either side ends up -/
def Tagged (l r : List Nat) (z : Nat) (loc : Loc) : Prop :=
  (loc = .left ∧ z ∈ l ∧ z ∉ r) ∨ (loc = .both ∧ z ∈ l ∧ z ∈ r) ∨ (loc = .right ∧ z ∉ l ∧ z ∈ r)

theorem Tagged.mem {l r : List Nat} {z : Nat} {loc : Loc} (h : Tagged l r z loc) : z ∈ l ∨ z ∈ r := by
  rcases h with ⟨_, h, _⟩ | ⟨_, h, _⟩ | ⟨_, _, h⟩ <;> simp [h]

theorem exists_tagged {l r : List Nat} {z : Nat} : (∃ loc, Tagged l r z loc) ↔ z ∈ l ∨ z ∈ r := by
  refine ⟨fun ⟨_, h⟩ => h.mem, fun h => ?_⟩
  by_cases hl : z ∈ l <;> by_cases hr : z ∈ r
  · exact ⟨.both, .inr (.inl ⟨rfl, hl, hr⟩)⟩
  · exact ⟨.left, .inl ⟨rfl, hl, hr⟩⟩
  · exact ⟨.right, .inr (.inr ⟨rfl, hl, hr⟩)⟩
  · exact absurd h (by simp [hl, hr])

/-- `c` lists the elements of `l` and `r` in increasing order, each once, tagged with where it is -/
def Classifies (l r : List Nat) (c : List (Nat × Loc)) : Prop :=
  (c.map (·.1)).Pairwise (· < ·) ∧ ∀ z loc, (z, loc) ∈ c ↔ Tagged l r z loc

theorem Classifies.cons {x : Nat} {t : Loc} {l r l' r' : List Nat} {c : List (Nat × Loc)} (h : Classifies l' r' c)
    (hl : ∀ a ∈ l', x < a) (hr : ∀ a ∈ r', x < a)
    (hT : ∀ z loc, Tagged l r z loc ↔ (z = x ∧ loc = t) ∨ Tagged l' r' z loc) : Classifies l r ((x, t) :: c) := by
  refine ⟨?_, fun z loc => by simp [h.2, hT]⟩
  simp only [List.map_cons, List.pairwise_cons]
  refine ⟨fun z hz => ?_, h.1⟩
  obtain ⟨⟨z, loc⟩, hm, rfl⟩ := List.mem_map.1 hz
  exact ((h.2 z loc).1 hm).mem.elim (hl z) (hr z)

theorem Classifies.one {t : Loc} {l l₁ r₁ : List Nat} (hl : l.Pairwise (· < ·))
    (hT : ∀ z loc, Tagged l₁ r₁ z loc ↔ loc = t ∧ z ∈ l) : Classifies l₁ r₁ (l.map fun x => (x, t)) :=
  ⟨by rwa [map_fst_map_pair], fun z loc => by rw [hT, mem_map_pair, and_comm]⟩

theorem tagged_cons {x z : Nat} {loc : Loc} {l' r' : List Nat} (hl : x ∉ l') (hr : x ∉ r') :
    (Tagged (x :: l') r' z loc ↔ (z = x ∧ loc = .left) ∨ Tagged l' r' z loc) ∧
    (Tagged l' (x :: r') z loc ↔ (z = x ∧ loc = .right) ∨ Tagged l' r' z loc) ∧
    (Tagged (x :: l') (x :: r') z loc ↔ (z = x ∧ loc = .both) ∨ Tagged l' r' z loc) := by
  by_cases hz : z = x
  · subst hz; simp [Tagged, hl, hr]
  · simp [Tagged, hz]

theorem classify_classifies (l r : List Nat) (hl : l.Pairwise (· < ·)) (hr : r.Pairwise (· < ·)) :
    Classifies l r (classify l r) := by
  fun_induction classify l r with
  | case1 r => exact .one hr fun z loc => by simp [Tagged]
  | case2 l hne => exact .one hl fun z loc => by simp [Tagged]
  | case3 xs x ys ih =>
    -- the same head `x` on both sides
    rw [List.pairwise_cons] at hl hr
    exact (ih hl.2 hr.2).cons hl.1 hr.1 fun z loc => (tagged_cons (not_mem_of_lt hl.1) (not_mem_of_lt hr.1)).2.2
  | case4 x xs y ys hxy hlt ih =>
    -- `x < y`: `x` is below the whole right side
    have hlo : ∀ a ∈ y :: ys, x < a := (List.pairwise_cons.1 ((pairwise_lt_cons_cons x y ys).2 ⟨hlt, hr⟩)).1
    rw [List.pairwise_cons] at hl
    exact (ih hl.2 hr).cons hl.1 hlo fun z loc => (tagged_cons (not_mem_of_lt hl.1) (not_mem_of_lt hlo)).1
  | case5 x xs y ys hxy hlt ih =>
    -- `y < x`: `y` is below the whole left side
    have hyx : y < x := Nat.lt_of_le_of_ne (Nat.not_lt.1 hlt) (Ne.symm hxy)
    have hlo : ∀ a ∈ x :: xs, y < a := (List.pairwise_cons.1 ((pairwise_lt_cons_cons y x xs).2 ⟨hyx, hl⟩)).1
    rw [List.pairwise_cons] at hr
    exact (ih hl hr.2).cons hlo hr.1 fun z loc => (tagged_cons (not_mem_of_lt hlo) (not_mem_of_lt hr.1)).2.1

theorem classify_spec (l r : List Nat) (hl : strictSorted l = true) (hr : strictSorted r = true) :
    strictSorted ((classify l r).map (·.1)) = true ∧
    (∀ x, (x, Loc.both) ∈ classify l r ↔ (x ∈ l ∧ x ∈ r)) ∧
    (∀ x, (x, Loc.left) ∈ classify l r ↔ (x ∈ l ∧ x ∉ r)) ∧
    (∀ x, (x, Loc.right) ∈ classify l r ↔ (x ∉ l ∧ x ∈ r)) := by
  rw [strictSorted_iff] at hl hr ⊢
  obtain ⟨hp, hm⟩ := classify_classifies l r hl hr
  exact ⟨hp, by simp [hm, Tagged]⟩

theorem mergeSorted_spec (l r : List Nat) (hl : strictSorted l = true) (hr : strictSorted r = true) :
    (mergeSorted l r).2 = none ∧ strictSorted (mergeSorted l r).1 = true ∧
    ∀ x, x ∈ (mergeSorted l r).1 ↔ (x ∈ l ∨ x ∈ r) := by
  have he : mergeSorted l r = ((classify l r).map (·.1), none) := by
    simp [mergeSorted, detect_spec l r hl hr]
  rw [he, strictSorted_iff]
  rw [strictSorted_iff] at hl hr
  obtain ⟨hp, hm⟩ := classify_classifies l r hl hr
  refine ⟨rfl, hp, fun x => ?_⟩
  simp only [List.mem_map, Prod.exists, exists_and_right, exists_eq_right, hm]
  exact exists_tagged

theorem chunkIter_spec (n : Nat) (hn : 0 < n) (l : List Nat) :
    (chunkIter n l).flatten = l ∧ ∀ c ∈ chunkIter n l, c ≠ [] ∧ c.length ≤ n := by
  rw [chunkIter, if_neg (Nat.ne_of_gt hn)]
  exact chunks_spec_of n hn (chunks n) (fun _ => rfl) (fun _ => rfl) (fun _ _ _ => rfl) _ l (Nat.le_refl _)

theorem insSort_nats : InsSort (· ≤ ·) insSorted sortNats := ⟨fun _ => rfl, fun _ _ _ => rfl, rfl, fun _ _ => rfl⟩

theorem mem_sortNats (y : Nat) (l : List Nat) : y ∈ sortNats l ↔ y ∈ l := (insSort_nats.perm l).mem_iff

theorem sortNats_pw (l : List Nat) (hl : l.Nodup) : (sortNats l).Pairwise (· < ·) :=
  ((insSort_nats.sorted (R := (· ≤ ·)) (fun _ _ => id) (fun _ _ h => Nat.le_of_not_le h) Nat.le_trans l).and
    ((insSort_nats.perm l).nodup_iff.mpr hl)).imp fun h => Nat.lt_of_le_of_ne h.1 h.2

theorem bulkFind_spec (idx req : List Nat) (hi : idx.Nodup) (hr : req.Nodup) (inMax scanMax : Nat) (hin : 0 < inMax) :
    (bulkFind idx req inMax scanMax).Nodup ∧ ∀ k, k ∈ bulkFind idx req inMax scanMax ↔ (k ∈ idx ∧ k ∈ req) := by
  rw [bulkFind]
  split
  · have hflat := (chunkIter_spec inMax hin req).1
    refine ⟨nodup_flatMap_filter_contains idx hi _ (by rw [hflat]; exact hr), fun k => ?_⟩
    rw [mem_flatMap_filter_contains, hflat]
  · have hsi := sortNats_pw idx hi
    have hsr := sortNats_pw req hr
    rw [detect_spec _ _ ((strictSorted_iff _).2 hsi) ((strictSorted_iff _).2 hsr)]
    obtain ⟨hp, hb⟩ := classify_classifies _ _ hsi hsr
    exact ⟨(hp.imp Nat.ne_of_lt).sublist (List.filter_sublist.map _), fun k => by simp [hb, Tagged, mem_sortNats]⟩

end Dos.Merge
