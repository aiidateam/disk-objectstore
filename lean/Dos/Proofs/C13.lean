/-
Append-only packs filled in order (C13) at Level B.

Without repack only four things happen to `(packs, cur, target)`: the current pack is selected and opened, an object is
written to it, the selected id is cached, the cache is forgotten.  A predicate closed under these (`Closed`; opening is
writing nothing, so the first two are one clause) holds along every history without repack (`qs_run`); "append-only",
"full packs are left alone" and the numbering are three such predicates.

`Numbered` alone is not inductive (witness: `numbered_alone_not_inductive_step/_run` at the end): it does not say that the
packs below the cached pack id are full.  `CurFull` is that clause; it holds in every state reachable from the empty
container, where the cache only ever holds 0 or a value returned by `choosePack`, below which everything is full.
-/
import Dos.Proofs.Step
import Dos.Proofs.OpenCur

namespace Dos

def Op.noRepack : Op → Bool
  | .repack _ _ => false
  | _ => true

/-- the pack chosen for writing is never one that exists and is full: the fuel of `choosePackGo` always suffices -/
theorem choosePack_ok (t : Tab) (s : St) (nd : (s.packs.map (·.1)).Nodup) :
    getPack s.packs (choosePack t s) = none ∨
    ∃ segs, getPack s.packs (choosePack t s) = some segs ∧ segsLen t segs < s.target := by
  have _ := nd
  exact (choosePack_spec t s).2.2

theorem choosePack_ge (t : Tab) (s : St) : s.cur ≤ choosePack t s :=
  (choosePack_spec t s).1

section induct

variable {t : Tab} {Q : Packs → Nat → Nat → Prop}

abbrev QS (Q : Packs → Nat → Nat → Prop) (s : St) : Prop := Q s.packs s.cur s.target

structure Closed (t : Tab) (Q : Packs → Nat → Nat → Prop) : Prop where
  /-- `ext = []`: the pack is selected and opened (`ensurePack_eq`); `ext = [g]`: an object is written to it -/
  app : ∀ (s : St) (ext : List Seg), QS Q s →
    Q (setPack s.packs (choosePack t s) ((getPack s.packs (choosePack t s)).getD [] ++ ext)) (choosePack t s) s.target
  setCur : ∀ s : St, QS Q s → Q s.packs (choosePack t s) s.target
  zeroCur : ∀ s : St, QS Q s → Q s.packs 0 s.target

theorem Session.qs (cl : Closed t Q) {nh : Bool} {s s' : St} {l : List (Nat × Bool)} (h : Session t nh s l s')
    (hq : QS Q s) : QS Q s' := by
  induction h with
  | done => exact hq
  | cur _ ih => exact ih (cl.setCur _ hq)
  | @opn s _ _ _ ih =>
    have h := cl.app s [] hq
    rw [← ensurePack_eq] at h
    exact ih h
  | wrt _ _ ih => exact ih (cl.app _ [⟨_, _⟩] hq)
  | skip _ _ ih => exact ih hq

theorem qs_addLoose {s : St} (h : QS Q s) (c : Nat) : QS Q (addLoose s c) := by
  rcases addLoose_cases s c with ⟨_, e⟩ | ⟨_, e⟩ | ⟨_, e⟩ <;> rw [e] <;> exact h

theorem qs_step (cl : Closed t Q) {s s' : St} {op : Op} (hop : op.noRepack = true)
    (h : step t s op = some s') (hq : QS Q s) : QS Q s' := by
  cases op with
  | addLoose c => exact Option.some.inj h ▸ qs_addLoose hq c
  | addPacked cs z nh => exact Option.some.inj h ▸ (Session.of_addPacked t s cs z nh).qs cl hq
  | packAll m order zs c =>
    obtain ⟨s1, hw, rfl⟩ := packAll_session h
    exact hw.qs cl hq
  | clean => exact Option.some.inj h ▸ hq
  | delete ks => exact Option.some.inj h ▸ hq
  | repack m plan => cases hop
  | loosen k =>
    rcases loosen_eq_some.mp h with ⟨_, rfl⟩ | ⟨_, c, _, rfl⟩
    · exact hq
    · exact qs_addLoose hq c
  | reopen => exact Option.some.inj h ▸ cl.zeroCur s hq
  | importObjs w o z same tr => exact (importObjs_session h).2.qs cl hq

theorem qs_run (cl : Closed t Q) {ops : List Op} {s s' : St} (hops : ∀ op ∈ ops, op.noRepack = true)
    (h : run t s ops = some s') (hq : QS Q s) : QS Q s' :=
  run_induct (P := QS Q) (fun hop hq hs => qs_step cl hop hs hq) hops hq h

end induct

theorem closed_pext (t : Tab) (a : Packs) : Closed t (fun packs _ _ => PExt (fun _ => True) a packs) where
  app := fun _ _ h => h.trans (pext_append _ _ fun _ _ => trivial)
  setCur := fun _ h => h
  zeroCur := fun _ h => h

theorem append_only_step {t : Tab} {s s' : St} {op : Op} (hop : op.noRepack = true) (h : step t s op = some s') :
    ∀ p segs, getPack s.packs p = some segs → ∃ ext, getPack s'.packs p = some (segs ++ ext) := fun _ _ hp =>
  let ⟨ext, e, _⟩ := (qs_step (closed_pext t s.packs) hop h (PExt.refl _ _)).of_some hp
  ⟨ext, e⟩

theorem append_only_run {t : Tab} {ops : List Op} {s s' : St} (hops : ∀ op ∈ ops, op.noRepack = true)
    (h : run t s ops = some s') :
    ∀ p segs, getPack s.packs p = some segs → ∃ ext, getPack s'.packs p = some (segs ++ ext) := fun _ _ hp =>
  let ⟨ext, e, _⟩ := (qs_run (closed_pext t s.packs) hops h (PExt.refl _ _)).of_some hp
  ⟨ext, e⟩

/-- the full packs of `a` (w.r.t. target `tg`) are unchanged in `b`, and the target is still `tg` -/
def KeepFull (t : Tab) (a : Packs) (tg : Nat) (b : Packs) (tg' : Nat) : Prop :=
  tg' = tg ∧ ∀ p segs, getPack a p = some segs → tg ≤ segsLen t segs → getPack b p = some segs

theorem keepFull_setPack {t : Tab} {a : Packs} {tg : Nat} {s : St} (h : KeepFull t a tg s.packs s.target)
    (segs' : List Seg) : KeepFull t a tg (setPack s.packs (choosePack t s) segs') s.target := by
  refine ⟨h.1, fun p segs hp hfull => ?_⟩
  have h1 := h.2 p segs hp hfull
  -- the pack chosen is missing or below the target, `p` is neither
  have hne : p ≠ choosePack t s := by
    rintro rfl
    rcases (choosePack_spec t s).2.2 with hn | ⟨segs2, hs2, hlt⟩
    · cases hn.symm.trans h1
    · cases hs2.symm.trans h1
      exact Nat.not_le.mpr hlt (h.1 ▸ hfull)
  rw [getPack_setPack_ne hne]
  exact h1

theorem closed_keepFull (t : Tab) (a : Packs) (tg : Nat) : Closed t (fun packs _ tg' => KeepFull t a tg packs tg') where
  app := fun _ _ h => keepFull_setPack h _
  setCur := fun _ h => h
  zeroCur := fun _ h => h

/-- a pack that has reached the target size is never written again (by a handle whose cache is valid: no repack) -/
theorem full_never_written {t : Tab} {s s' : St} (inv : Inv t s) {op : Op} (hop : op.noRepack = true)
    (h : step t s op = some s') :
    ∀ p segs, getPack s.packs p = some segs → s.target ≤ segsLen t segs → getPack s'.packs p = some segs := by
  have _ := inv
  have h0 : KeepFull t s.packs s.target s.packs s.target := ⟨rfl, fun _ _ hp _ => hp⟩
  exact (qs_step (closed_keepFull t s.packs s.target) hop h h0).2

/-- packs are numbered 0..n-1, all but the last have reached the target, the cached pack id is in range -/
structure Numbered (t : Tab) (s : St) : Prop where
  consecutive : ∀ p, p ∈ s.packs.map (·.1) ↔ p < s.packs.length
  full : ∀ p segs, getPack s.packs p = some segs → p + 1 < s.packs.length → s.target ≤ segsLen t segs
  cur_le : s.cur ≤ s.packs.length

theorem numbered_empty (t : Tab) (tg : Nat) : Numbered t (St.empty tg) := by
  refine ⟨fun p => ⟨fun h => ?_, fun h => ?_⟩, fun p segs h => ?_, Nat.le_refl 0⟩ <;> cases h

/-- the clause missing from `Numbered`: every pack below the cached pack id is full -/
def CurFull (t : Tab) (s : St) : Prop :=
  ∀ p segs, getPack s.packs p = some segs → p < s.cur → s.target ≤ segsLen t segs

theorem curFull_empty (t : Tab) (tg : Nat) : CurFull t (St.empty tg) := fun _ _ h => by cases h

/-- `Numbered ∧ CurFull` (`num3_iff`) as a predicate on `(packs, cur, target)`, which is the shape `Closed` asks for -/
structure Num3 (t : Tab) (packs : Packs) (cur tg : Nat) : Prop where
  consecutive : ∀ p, p ∈ packs.map (·.1) ↔ p < packs.length
  full : ∀ p segs, getPack packs p = some segs → p + 1 < packs.length → tg ≤ segsLen t segs
  cur_le : cur ≤ packs.length
  cur_full : ∀ p segs, getPack packs p = some segs → p < cur → tg ≤ segsLen t segs

theorem num3_iff (t : Tab) (s : St) : Num3 t s.packs s.cur s.target ↔ Numbered t s ∧ CurFull t s :=
  ⟨fun h => ⟨⟨h.consecutive, h.full, h.cur_le⟩, h.cur_full⟩,
   fun h => ⟨h.1.consecutive, h.1.full, h.1.cur_le, h.2⟩⟩

/-- everything below the pack chosen is full, and the pack chosen is the last one or the next one -/
theorem num3_choose {t : Tab} {s : St} (h : Num3 t s.packs s.cur s.target) :
    (∀ p segs, getPack s.packs p = some segs → p < choosePack t s → s.target ≤ segsLen t segs) ∧
    choosePack t s ≤ s.packs.length ∧ s.packs.length ≤ choosePack t s + 1 := by
  obtain ⟨h1, h2, h3⟩ := choosePack_spec t s
  refine ⟨fun p segs hp hlt => ?_, ?_, Nat.le_of_not_lt fun hlt => ?_⟩
  · by_cases hc : p < s.cur
    · exact h.cur_full p segs hp hc
    · obtain ⟨_, hs2, hf⟩ := h2 p (Nat.le_of_not_lt hc) hlt
      exact Option.some.inj (hp.symm.trans hs2) ▸ hf
  · -- the pack chosen is the cached one, or the one in front of it exists
    rcases Nat.eq_or_lt_of_le h1 with hc | hc
    · exact hc ▸ h.cur_le
    · obtain ⟨_, hs2, _⟩ := h2 (choosePack t s - 1) (Nat.le_sub_one_of_lt hc) (Nat.sub_one_lt (Nat.ne_zero_of_lt hc))
      exact Nat.le_of_pred_lt ((h.consecutive _).mp (mem_keys_of_getPack hs2))
  · -- a pack in front of the last one is full, the pack chosen is not
    have hm := (h.consecutive _).mpr (Nat.lt_of_succ_lt hlt)
    rcases h3 with hn | ⟨segs, hs, hlt'⟩
    · exact getPack_eq_none_iff.mp hn hm
    · exact Nat.not_le.mpr hlt' (h.full _ _ hs hlt)

theorem num3_setPack {t : Tab} {s : St} (h : Num3 t s.packs s.cur s.target) (segs' : List Seg) :
    Num3 t (setPack s.packs (choosePack t s) segs') (choosePack t s) s.target := by
  obtain ⟨hbelow, hle, hge⟩ := num3_choose h
  have hbelow' : ∀ p segs, getPack (setPack s.packs (choosePack t s) segs') p = some segs →
      p < choosePack t s → s.target ≤ segsLen t segs := fun p segs hp hlt =>
    hbelow p segs (getPack_setPack_ne (Nat.ne_of_lt hlt) ▸ hp) hlt
  -- written into the last pack or appended as the next one, the chosen pack is the last one afterwards
  have hlen : (setPack s.packs (choosePack t s) segs').length = choosePack t s + 1 := by
    rw [length_setPack]
    split
    · next hm => exact Nat.le_antisymm hge ((h.consecutive _).mp hm)
    · next hm => rw [Nat.le_antisymm hle (Nat.le_of_not_lt (mt (h.consecutive _).mpr hm))]
  refine ⟨fun p => ?_, fun p segs hp hlt => hbelow' p segs hp ?_, ?_, hbelow'⟩
  · -- the old ids and the chosen one are the ids up to the chosen one
    rw [mem_keys_setPack, hlen, h.consecutive]
    constructor
    · rintro (hlt | rfl)
      · exact Nat.lt_of_lt_of_le hlt hge
      · exact Nat.lt_succ_self _
    · intro hlt
      rcases Nat.lt_or_eq_of_le (Nat.le_of_lt_succ hlt) with hlt | rfl
      · exact Or.inl (Nat.lt_of_lt_of_le hlt hle)
      · exact Or.inr rfl
  · rw [hlen] at hlt; exact Nat.lt_of_succ_lt_succ hlt
  · rw [hlen]; exact Nat.le_succ _

theorem closed_num3 (t : Tab) : Closed t (Num3 t) where
  app := fun _ _ h => num3_setPack h _
  setCur := fun _ h => ⟨h.consecutive, h.full, (num3_choose h).2.1, (num3_choose h).1⟩
  zeroCur := fun _ h => ⟨h.consecutive, h.full, Nat.zero_le _, fun _ _ _ hlt => absurd hlt (Nat.not_lt_zero _)⟩

theorem numbered_step {t : Tab} {s s' : St} (inv : Inv t s) (num : Numbered t s) (cf : CurFull t s)
    {op : Op} (hop : op.noRepack = true) (h : step t s op = some s') : Numbered t s' ∧ CurFull t s' := by
  have _ := inv
  exact (num3_iff t s').mp (qs_step (closed_num3 t) hop h ((num3_iff t s).mpr ⟨num, cf⟩))

theorem numbered_run {t : Tab} (wf : t.WF) {ops : List Op} {s s' : St} (inv : Inv t s) (num : Numbered t s)
    (cf : CurFull t s) (hops : ∀ op ∈ ops, op.noRepack = true) (h : run t s ops = some s') :
    Numbered t s' ∧ CurFull t s' := by
  have _ := wf
  have _ := inv
  exact (num3_iff t s').mp (qs_run (closed_num3 t) hops h ((num3_iff t s).mpr ⟨num, cf⟩))

/-- what C13 needs: `CurFull` has done its work and is dropped -/
theorem numbered_reachable {t : Tab} {tg : Nat} {ops : List Op} {s' : St}
    (hops : ∀ op ∈ ops, op.noRepack = true) (h : run t (St.empty tg) ops = some s') : Numbered t s' :=
  ((num3_iff t s').mp (qs_run (closed_num3 t) hops h
    ((num3_iff t _).mpr ⟨numbered_empty t tg, curFull_empty t tg⟩))).1

/-- the counterexample state: one empty pack, the cache pointing past it -/
def cexState : St := { loose := [], packs := [(0, [])], rows := [], cur := 1, target := 1 }

theorem cex_inv (t : Tab) : Inv t cexState := by
  refine ⟨?_, ?_, ?_, ?_, ?_, ?_, ?_, ?_⟩ <;> simp [cexState]

theorem cex_numbered (t : Tab) : Numbered t cexState := by
  refine ⟨?_, ?_, ?_⟩
  · intro p; simp [cexState]
  · intro p segs _ h; simp [cexState] at h
  · simp [cexState]

/-- the object goes to a new pack 1; pack 0 stays empty and is no longer the last one -/
theorem cex_not_numbered (t : Tab) : ¬ Numbered t (addPacked t cexState [7] false false) := by
  intro h
  have := h.full 0 []
  simp [addPacked, addPackedStep, openCur, writeObj, choosePack, choosePackGo, ensurePack, getPack, setPack, cexState,
    hasRow, rowKeys] at this

theorem numbered_alone_not_inductive_step (t : Tab) :
    ¬ (∀ {s s' : St}, Inv t s → Numbered t s → ∀ {op : Op}, op.noRepack = true → step t s op = some s' →
        Numbered t s') :=
  fun h => cex_not_numbered t (h (cex_inv t) (cex_numbered t) (op := .addPacked [7] false false) rfl rfl)

theorem numbered_alone_not_inductive_run (t : Tab) :
    ¬ (∀ {ops : List Op} {s s' : St}, Inv t s → Numbered t s → (∀ op ∈ ops, op.noRepack = true) →
        run t s ops = some s' → Numbered t s') :=
  fun h => cex_not_numbered t (h (ops := [.addPacked [7] false false]) (cex_inv t) (cex_numbered t)
    (fun _ hop => List.mem_singleton.mp hop ▸ rfl) rfl)

end Dos
