/-
Write sessions: what `addPacked`, `packAll` and `importObjs` share.  What a session does to the byte counts (`Session.bal`,
for `nh = true`) and to the numbering of the packs (`Session.qs`) is proved where those notions live, in `C09.lean` and `C13.lean`.
-/
import Dos.Proofs.InvOps

namespace Dos

theorem hasRow_congr {s s' : St} (h : s'.rows.map (·.key) = s.rows.map (·.key)) (k : Nat) :
    hasRow s' k = hasRow s k := by
  simp only [hasRow, rowKeys, h]

theorem hasLoose_congr {s s' : St} (h : s'.loose = s.loose) (k : Nat) : hasLoose s' k = hasLoose s k := by
  simp only [hasLoose, looseKeys, h]

theorem mem_of_isPerm {a b : List Nat} (h : isPerm a b = true) (x : Nat) : x ∈ a ↔ x ∈ b := by
  simp only [isPerm, Bool.and_eq_true, List.all_eq_true, List.contains_iff_mem] at h
  exact ⟨h.1.2 x, h.2 x⟩

theorem contains_of_isPerm {a b : List Nat} (h : isPerm a b = true) (x : Nat) : a.contains x = b.contains x := by
  rw [Bool.eq_iff_iff, List.contains_iff_mem, List.contains_iff_mem, mem_of_isPerm h]

theorem mem_toPack (s : St) (k : Nat) : k ∈ toPack s ↔ hasLoose s k = true ∧ hasRow s k = false := by
  simp only [toPack, hasLoose, List.mem_filter, List.contains_iff_mem, Bool.not_eq_true']

@[simp] theorem rows_openCur (t : Tab) (s : St) : (openCur t s).rows = s.rows := rfl
@[simp] theorem loose_openCur (t : Tab) (s : St) : (openCur t s).loose = s.loose := rfl
@[simp] theorem loose_writeObj (t : Tab) (s : St) (c : Nat) (z : Bool) : (writeObj t s c z).loose = s.loose := rfl

@[simp] theorem hasRow_openCur (t : Tab) (s : St) (k : Nat) : hasRow (openCur t s) k = hasRow s k := rfl
@[simp] theorem hasLoose_openCur (t : Tab) (s : St) (k : Nat) : hasLoose (openCur t s) k = hasLoose s k := rfl
@[simp] theorem hasLoose_writeObj (t : Tab) (s : St) (c : Nat) (z : Bool) (k : Nat) :
    hasLoose (writeObj t s c z) k = hasLoose s k := rfl

theorem hasRow_writeObj (t : Tab) (s : St) (c : Nat) (z : Bool) (k : Nat) :
    hasRow (writeObj t s c z) k = (hasRow s k || k == c) := by
  rw [Bool.eq_iff_iff, Bool.or_eq_true, hasRow_iff, hasRow_iff, beq_iff_eq]
  exact mem_keys_insertIgnore ..

theorem rows_writeObj (t : Tab) (s : St) (c : Nat) (z : Bool) :
    (hasRow s c = true ∧ (writeObj t s c z).rows = s.rows) ∨
    (hasRow s c = false ∧ ∃ r, (writeObj t s c z).rows = s.rows ++ [r] ∧ r.key = c ∧ r.z = z ∧ r.len = Seg.len t ⟨c, z⟩) :=
  (insertIgnore_cases s.rows _).imp (fun ⟨hm, e⟩ => ⟨hasRow_iff.mpr hm, e⟩)
    fun ⟨hn, e⟩ => ⟨Bool.eq_false_iff.mpr (mt hasRow_iff.mp hn), _, e, rfl, rfl, rfl⟩

theorem hasRow_writeObj_false {t : Tab} {s : St} {c k : Nat} {z : Bool} (h : hasRow (writeObj t s c z) k = false) :
    hasRow s k = false := by
  rw [hasRow_writeObj, Bool.or_eq_false_iff] at h
  exact h.1

/-- packs are extended at their ends, or created, by segments satisfying `P`; the first alternative is for the packs
    that stay missing -/
def PExt (P : Seg → Prop) (ps ps' : Packs) : Prop :=
  ∀ p, getPack ps' p = getPack ps p ∨
    ∃ ext, getPack ps' p = some ((getPack ps p).getD [] ++ ext) ∧ ∀ g ∈ ext, P g

theorem PExt.refl (P : Seg → Prop) (ps : Packs) : PExt P ps ps := fun _ => Or.inl rfl

theorem PExt.trans {P : Seg → Prop} {a b c : Packs} (h1 : PExt P a b) (h2 : PExt P b c) : PExt P a c := by
  intro p
  rcases h1 p with e1 | ⟨x1, e1, hx1⟩
  · rcases h2 p with e2 | ⟨x2, e2, hx2⟩
    · exact Or.inl (e2.trans e1)
    · exact Or.inr ⟨x2, by rw [e2, e1], hx2⟩
  · rcases h2 p with e2 | ⟨x2, e2, hx2⟩
    · exact Or.inr ⟨x1, e2.trans e1, hx1⟩
    · exact Or.inr ⟨x1 ++ x2, by rw [e2, e1, Option.getD_some, List.append_assoc],
        List.forall_mem_append.mpr ⟨hx1, hx2⟩⟩

theorem PExt.mono {P Q : Seg → Prop} {a b : Packs} (h : PExt P a b) (hPQ : ∀ g, P g → Q g) : PExt Q a b :=
  fun p => (h p).imp id fun ⟨ext, e, hx⟩ => ⟨ext, e, fun g hg => hPQ g (hx g hg)⟩

theorem PExt.of_some {P : Seg → Prop} {a b : Packs} (h : PExt P a b) {p : Nat} {segs : List Seg}
    (hg : getPack a p = some segs) : ∃ ext, getPack b p = some (segs ++ ext) ∧ ∀ g ∈ ext, P g := by
  rcases h p with e | ⟨ext, e, hx⟩
  · exact ⟨[], by rw [e, hg, List.append_nil], nofun⟩
  · exact ⟨ext, by rw [e, hg, Option.getD_some], hx⟩

theorem PExt.of_none {P : Seg → Prop} {a b : Packs} (h : PExt P a b) {p : Nat} {segs : List Seg}
    (hg : getPack a p = none) (hg' : getPack b p = some segs) : ∀ g ∈ segs, P g := by
  rcases h p with e | ⟨ext, e, hx⟩
  · rw [e, hg] at hg'; cases hg'
  · rw [e, hg] at hg'
    cases hg'
    exact hx

theorem pext_append {P : Seg → Prop} (ps : Packs) (p : Nat) {ext : List Seg} (h : ∀ g ∈ ext, P g) :
    PExt P ps (setPack ps p ((getPack ps p).getD [] ++ ext)) := by
  intro q
  by_cases hq : q = p
  · subst hq
    exact Or.inr ⟨ext, getPack_setPack_eq, h⟩
  · exact Or.inl (getPack_setPack_ne hq)

theorem pext_ensurePack (P : Seg → Prop) (ps : Packs) (p : Nat) : PExt P ps (ensurePack ps p) :=
  ensurePack_eq ps p ▸ pext_append ps p nofun

theorem pext_writeObj {P : Seg → Prop} (t : Tab) (s : St) {c : Nat} {z : Bool} (h : P ⟨c, z⟩) :
    PExt P s.packs (writeObj t s c z).packs :=
  pext_append s.packs (choosePack t s) fun _ hg => List.mem_singleton.mp hg ▸ h

/-- `s'` results from `s` when the objects `l` are offered in this order; with `nh` (the library's `no_holes`) only new
    keys are written.  The constructors are the steps of `add_streamed_objects_to_pack`: `cur` caches the id of the pack to write
    to without opening anything (a call without objects), `opn` selects and opens it (`lock_pack`; before every object,
    as `addPackedStep` selects anew each time), `wrt` appends and indexes an object, `skip` passes over one that is indexed
    already.  `skip` does not ask for `nh`: no fact proved of a session needs it. -/
inductive Session (t : Tab) (nh : Bool) : St → List (Nat × Bool) → St → Prop
  | done (s : St) : Session t nh s [] s
  | cur {s s' : St} {l : List (Nat × Bool)} : Session t nh { s with cur := choosePack t s } l s' → Session t nh s l s'
  | opn {s s' : St} {l : List (Nat × Bool)} : Session t nh (openCur t s) l s' → Session t nh s l s'
  | wrt {s s' : St} {c : Nat} {z : Bool} {l : List (Nat × Bool)} :
      (nh = true → hasRow s c = false) → Session t nh (writeObj t s c z) l s' → Session t nh s ((c, z) :: l) s'
  | skip {s s' : St} {c : Nat} {z : Bool} {l : List (Nat × Bool)} :
      hasRow s c = true → Session t nh s l s' → Session t nh s ((c, z) :: l) s'

namespace Session

variable {t : Tab} {nh : Bool} {s s' : St} {l : List (Nat × Bool)}

theorem loose (h : Session t nh s l s') : s'.loose = s.loose := by
  induction h with
  | done => rfl
  | cur _ ih | opn _ ih | wrt _ _ ih | skip _ _ ih => exact ih

theorem inv (h : Session t nh s l s') (i : Inv t s) : Inv t s' := by
  induction h with
  | done => exact i
  | cur _ ih => exact ih (inv_set_cur i _)
  | opn _ ih => exact ih (inv_openCur i)
  | wrt _ _ ih => exact ih (inv_writeObj i _ _)
  | skip _ _ ih => exact ih i

theorem hasRow_eq (h : Session t nh s l s') (k : Nat) : hasRow s' k = (hasRow s k || (l.map (·.1)).contains k) := by
  induction h with
  | done => exact (Bool.or_false _).symm
  | cur _ ih | opn _ ih => exact ih
  | wrt _ _ ih => rw [ih, hasRow_writeObj, List.map_cons, List.contains_cons, Bool.or_assoc]
  | skip hc _ ih => rw [ih, List.map_cons, List.contains_cons, ← Bool.or_assoc, or_beq_absorb hc]

theorem hasLoose_eq (h : Session t nh s l s') (k : Nat) : hasLoose s' k = hasLoose s k := hasLoose_congr h.loose k

theorem has_eq (h : Session t nh s l s') (k : Nat) : has s' k = (has s k || (l.map (·.1)).contains k) := by
  rw [has, h.hasRow_eq, h.hasLoose_eq, has, Bool.or_right_comm]

theorem rows (h : Session t nh s l s') :
    ∃ new, s'.rows = s.rows ++ new ∧ ∀ r ∈ new, (r.key, r.z) ∈ l ∧ hasRow s r.key = false := by
  induction h with
  | done s => exact ⟨[], (List.append_nil _).symm, nofun⟩
  | cur _ ih | opn _ ih => exact ih
  | @wrt s _ c z _ _ _ ih =>
    obtain ⟨new, e, hnew⟩ := ih
    have hnew' : ∀ r ∈ new, (r.key, r.z) ∈ (c, z) :: _ ∧ hasRow s r.key = false :=
      fun r hr => ⟨List.mem_cons_of_mem _ (hnew r hr).1, hasRow_writeObj_false (hnew r hr).2⟩
    rcases rows_writeObj t s c z with ⟨_, e1⟩ | ⟨hn, r, e1, rfl, rfl, _⟩
    · exact ⟨new, by rw [e, e1], hnew'⟩
    · exact ⟨r :: new, by rw [e, e1, List.append_assoc]; rfl,
        List.forall_mem_cons.mpr ⟨⟨List.mem_cons_self, hn⟩, hnew'⟩⟩
  | skip _ _ ih =>
    obtain ⟨new, e, hnew⟩ := ih
    exact ⟨new, e, fun r hr => ⟨List.mem_cons_of_mem _ (hnew r hr).1, (hnew r hr).2⟩⟩

theorem rows_sublist (h : Session t nh s l s') : s.rows.Sublist s'.rows := by
  obtain ⟨new, e, _⟩ := h.rows
  rw [e]
  exact List.sublist_append_left ..

theorem rows_kept (h : Session t nh s l s') : ∀ r ∈ s.rows, r ∈ s'.rows := fun _ hr => h.rows_sublist.subset hr

theorem new_rows (h : Session t nh s l s') : ∀ r ∈ s'.rows, r ∈ s.rows ∨ ((r.key, r.z) ∈ l ∧ hasRow s r.key = false) := by
  obtain ⟨new, e, hnew⟩ := h.rows
  intro r hr
  rw [e] at hr
  exact (List.mem_append.mp hr).imp id (hnew r)

theorem pext (h : Session t nh s l s') :
    PExt (fun g => (g.cid, g.z) ∈ l ∧ (nh = true → hasRow s g.cid = false)) s.packs s'.packs := by
  induction h with
  | done s => exact PExt.refl _ _
  | cur _ ih => exact ih
  | opn _ ih => exact (pext_ensurePack _ _ _).trans ih
  | wrt hf _ ih =>
    exact (pext_writeObj t _ ⟨List.mem_cons_self, hf⟩).trans
      (ih.mono fun g hg => ⟨List.mem_cons_of_mem _ hg.1, fun hn => hasRow_writeObj_false (hg.2 hn)⟩)
  | skip _ _ ih => exact ih.mono fun g hg => ⟨List.mem_cons_of_mem _ hg.1, hg.2⟩

theorem append {l' : List (Nat × Bool)} {s'' : St} (h : Session t nh s l s') (h' : Session t nh s' l' s'') :
    Session t nh s (l ++ l') s'' := by
  induction h with
  | done => exact h'
  | cur _ ih => exact .cur (ih h')
  | opn _ ih => exact .opn (ih h')
  | wrt hf _ ih => exact .wrt hf (ih h')
  | skip hc _ ih => exact .skip hc (ih h')

theorem of_writeAll (l : List (Nat × Bool)) (s : St)
    (h : nh = true → (l.map (·.1)).Nodup ∧ ∀ c ∈ l.map (·.1), hasRow s c = false) :
    Session t nh s l (writeAll t s l) := by
  induction l generalizing s with
  | nil => exact .done s
  | cons cz l ih =>
    obtain ⟨c, z⟩ := cz
    refine .wrt (fun hn => (h hn).2 c List.mem_cons_self) (ih _ fun hn => ?_)
    obtain ⟨hd, hf⟩ := h hn
    rw [List.map_cons, List.nodup_cons] at hd
    refine ⟨hd.2, fun c' hc' => ?_⟩
    have hne : (c' == c) = false := beq_false_of_ne fun e => hd.1 (e ▸ hc')
    rw [hasRow_writeObj, hf c' (List.mem_cons_of_mem _ hc'), hne]
    rfl

theorem of_foldl_addPackedStep (z : Bool) (cs : List Nat) (s : St) :
    Session t nh s (cs.map (·, z)) (cs.foldl (addPackedStep t z nh) s) := by
  induction cs generalizing s with
  | nil => exact .done s
  | cons c cs ih =>
    refine .opn ?_
    by_cases hc : (nh && hasRow (openCur t s) c) = true
    · have e : addPackedStep t z nh s c = openCur t s := if_pos hc
      rw [List.foldl_cons, e]
      exact .skip (Bool.and_eq_true_iff.mp hc).2 (ih _)
    · have e : addPackedStep t z nh s c = writeObj t (openCur t s) c z := if_neg hc
      rw [List.foldl_cons, e]
      refine .wrt (fun hn => ?_) (ih _)
      rw [hn, Bool.true_and] at hc
      exact Bool.eq_false_iff.mpr hc

theorem of_addPacked (t : Tab) (s : St) (cs : List Nat) (z nh : Bool) :
    Session t nh s (cs.map (·, z)) (addPacked t s cs z nh) := by
  cases cs with
  | nil => exact .cur (.done _)
  | cons c cs => exact .opn (of_foldl_addPackedStep z (c :: cs) _)

end Session

theorem removeLoose_nil (s : St) : removeLoose s [] = s :=
  congrArg (fun l => { s with loose := l }) (List.filter_eq_self.mpr fun _ _ => rfl)

theorem removeLoose_append (b : St) (A B : List Nat) : removeLoose (removeLoose b A) B = removeLoose b (A ++ B) := by
  simp only [removeLoose, List.filter_filter, List.contains_append, Bool.not_or, Bool.and_comm]

/-- the keys whose loose files an operation removes at its end -/
def gone (cl : Bool) (ks : List Nat) : List Nat := if cl then ks else []

theorem gone_nil (cl : Bool) : gone cl [] = [] := by
  cases cl <;> rfl

theorem gone_append (cl : Bool) (a b : List Nat) : gone cl (a ++ b) = gone cl a ++ gone cl b := by
  cases cl <;> rfl

theorem removeLoose_gone (s : St) (cl : Bool) (ks : List Nat) :
    removeLoose s (gone cl ks) = if cl then removeLoose s ks else s := by
  cases cl
  · exact removeLoose_nil s
  · rfl

theorem packAll_eq_some {t : Tab} {s s' : St} {m : Mode} {order : List Nat} {zs : List Bool} {cl : Bool} :
    packAll t s m order zs cl = some s' ↔
    (nodupB order = true ∧ isPerm order (toPack s) = true) ∧ zs.length = order.length ∧
    (∀ e ∈ s.loose, e.1 = e.2) ∧
    (∀ cz ∈ order.zip zs, verdictOK m false (t.size cz.1) (t.size cz.1) cz.2 = true) ∧
    (match order with
      | [] => { s with cur := choosePack t s }
      | _ => if cl then removeLoose (writeAll t (openCur t s) (order.zip zs)) order
             else writeAll t (openCur t s) (order.zip zs)) = s' := by
  simp only [packAll, Option.ite_none_left_eq_some, Bool.not_eq_true', Bool.and_eq_true,
    bne_iff_ne, ne_eq, Decidable.not_not, List.all_eq_true, beq_iff_eq, Bool.not_eq_false]
  cases order <;> simp only [Option.some.injEq]

/-- put with `gone`, rows, packs and `cur` of `s'` are those of `s1` whatever `cl` is -/
theorem packAll_session {t : Tab} {s s' : St} {m : Mode} {order : List Nat} {zs : List Bool} {cl : Bool}
    (h : packAll t s m order zs cl = some s') :
    ∃ s1, Session t true s (order.zip zs) s1 ∧ s' = removeLoose s1 (gone cl order) := by
  obtain ⟨⟨hnd, hperm⟩, hlen, _, _, rfl⟩ := packAll_eq_some.mp h
  cases order with
  | nil => exact ⟨_, .cur (.done _), by cases cl <;> exact (removeLoose_nil _).symm⟩
  | cons a as =>
    refine ⟨_, .opn (Session.of_writeAll _ _ fun _ => ?_), (removeLoose_gone ..).symm⟩
    rw [List.map_fst_zip (Nat.le_of_eq hlen.symm)]
    exact ⟨nodupB_iff.mp hnd, fun c hc => ((mem_toPack s c).mp ((mem_of_isPerm hperm c).mp hc)).2⟩

/-- the contents actually written by an import -/
def importNeeded (s : St) (written : List Nat) (sameHash : Bool) : List Nat :=
  if sameHash then written.filter (fun c => !has s c) else written.filter (fun c => !hasRow s c)

theorem importNeeded_noRow {s : St} {w : List Nat} {same : Bool} {c : Nat} (h : c ∈ importNeeded s w same) :
    hasRow s c = false := by
  unfold importNeeded at h
  cases same with
  | true =>
    simp only [if_true, List.mem_filter, has, Bool.not_eq_true', Bool.or_eq_false_iff] at h
    exact h.2.1
  | false =>
    simp only [Bool.false_eq_true, if_false, List.mem_filter, Bool.not_eq_true'] at h
    exact h.2

theorem importObjs_eq_some {t : Tab} {s s' : St} {w o : List Nat} {z same tr : Bool} :
    importObjs t s w o z same tr = some s' ↔
    ((nodupB w = true ∧ nodupB o = true) ∧ isPerm o (importNeeded s w same) = true) ∧
    (tr = true → (if same then importNeeded s w same else w).length ≠ (importNeeded s w same).length) ∧
    (match (if same then importNeeded s w same else w) with
      | [] => s
      | _ => if tr then openCur t (writeAll t (openCur t s) (o.map (·, z)))
             else writeAll t (openCur t s) (o.map (·, z))) = s' := by
  simp only [importObjs, importNeeded]
  generalize (if same = true then w.filter (fun c => !has s c) else w.filter (fun c => !hasRow s c)) = needed
  generalize (if same = true then needed else w) = streams
  simp only [Option.ite_none_left_eq_some, Bool.not_eq_true', Bool.and_eq_true, Bool.not_eq_false, beq_iff_eq,
    not_and, ne_eq]
  cases streams <;> simp only [Option.some.injEq]

theorem importObjs_session {t : Tab} {s s' : St} {w o : List Nat} {z same tr : Bool}
    (h : importObjs t s w o z same tr = some s') :
    isPerm o (importNeeded s w same) = true ∧ Session t true s (o.map (·, z)) s' := by
  obtain ⟨⟨⟨_, hnd⟩, hperm⟩, _, rfl⟩ := importObjs_eq_some.mp h
  refine ⟨hperm, ?_⟩
  have hw : Session t true s (o.map (·, z)) (writeAll t (openCur t s) (o.map (·, z))) :=
    .opn (Session.of_writeAll _ _ fun _ => by
      rw [map_fst_map_pair]
      exact ⟨nodupB_iff.mp hnd, fun c hc => importNeeded_noRow ((mem_of_isPerm hperm c).mp hc)⟩)
  split
  · next hs =>
    -- nothing is streamed, so nothing is needed, so nothing was written
    have hn : importNeeded s w same = [] := by
      cases same
      · rw [show w = [] from hs]; rfl
      · exact hs
    have ho : o = [] := by
      cases o with
      | nil => rfl
      | cons a as => exact absurd ((mem_of_isPerm hperm a).mp List.mem_cons_self) (hn ▸ List.not_mem_nil)
    subst ho
    exact .done s
  · split
    · simpa only [List.append_nil] using hw.append (.opn (.done _))
    · exact hw

theorem inv_addPacked {t : Tab} {s : St} (inv : Inv t s) (cs : List Nat) (z nh : Bool) :
    Inv t (addPacked t s cs z nh) :=
  (Session.of_addPacked t s cs z nh).inv inv

theorem inv_packAll {t : Tab} {s s' : St} (inv : Inv t s) {m : Mode} {order : List Nat} {zs : List Bool} {cl : Bool}
    (h : packAll t s m order zs cl = some s') : Inv t s' := by
  obtain ⟨s1, hw, rfl⟩ := packAll_session h
  exact inv_removeLoose (hw.inv inv) _

theorem inv_importObjs {t : Tab} {s s' : St} (inv : Inv t s) {w o : List Nat} {z same tr : Bool}
    (h : importObjs t s w o z same tr = some s') : Inv t s' :=
  (importObjs_session h).2.inv inv

end Dos
