/-
C18 at the level of the I/O model: every operation closes what it opens, never holds more than two descriptors of the
container folder at once (a pack and its lock file, or the sandbox file; what is opened and closed within one action is not
counted, see `Dos/Fd.lean`), a failed operation's handlers close everything, and the streaming loops move data in pieces
bounded by the chunk size whatever the object size.

The state-based count `heldBy` is the action-based count `held`, one ahead between the two halves of a (lock file, pack
file) pair (`midPair`; `heldBy_exec_addPacked`).
-/
import Dos.Proofs.FdAux

namespace Dos.Fd
open Dos Dos.IO

theorem actsAddLoose_head (s : St) (c : Nat) (mk : Bool) :
    ∃ rest : List Act, actsAddLoose s c mk = [.sbCreate, .sbWrite c, .sbFlush, .sbFsync, .dirSync, .sbClose] ++ rest ∧
      rest.all (delta · == 0) = true := by
  refine ⟨_, List.append_assoc _ _ _, all_append_of (all_ite_of rfl rfl) ?_⟩
  cases findLoose s.loose c with
  | none => rfl
  | some c' => exact all_ite_of rfl rfl

theorem balanced_addLoose (s : St) (c : Nat) (mk : Bool) : held (actsAddLoose s c mk) = 0 := by
  obtain ⟨rest, e, hz⟩ := actsAddLoose_head s c mk
  rw [e, held_append, held_eq_zero hz]
  rfl

theorem bounded_addLoose (s : St) (c : Nat) (mk : Bool) (k : Nat) :
    0 ≤ held ((actsAddLoose s c mk).take k) ∧ held ((actsAddLoose s c mk).take k) ≤ 1 := by
  obtain ⟨rest, e, hz⟩ := actsAddLoose_head s c mk
  rw [e, List.take_append, held_append, held_take_zero hz]
  -- the prefix lengths 0..6 of the six-action head, and all longer ones
  rcases k with _ | _ | _ | _ | _ | _ | _ | k <;> simp only [List.take, held, delta] <;> decide

theorem balanced_addPacked (t : Tab) (s : St) (cs : List Nat) (z nh rt : Bool) : held (actsAddPacked t s cs z nh rt) = 0 :=
  (run_addPacked t s cs z nh rt).balanced

theorem balanced_packAll (t : Tab) (s : St) (order : List Nat) (zs : List Bool) (cl : Bool) :
    held (actsPackAll t s order zs cl) = 0 :=
  (run_packAll t s order zs cl).balanced

theorem balanced_clean (s : St) (order : List Nat) : held (actsClean s order) = 0 :=
  held_eq_zero (all_map_of (fun _ => rfl) order)

theorem delta_delete (s : St) (ks : List Nat) : (actsDelete s ks).all (delta · == 0) = true :=
  all_append_of (all_append_of (all_map_of (fun _ => rfl) _) (all_map_of (fun _ => rfl) _)) rfl

theorem balanced_delete (s : St) (ks : List Nat) : held (actsDelete s ks) = 0 :=
  held_eq_zero (delta_delete s ks)

theorem balanced_repackPack (t : Tab) (s : St) (p : Nat) (zs : List Bool) : held (actsRepackPack t s p zs) = 0 :=
  (run_repackPack t s p zs).balanced

theorem bounded_addPacked (t : Tab) (s : St) (cs : List Nat) (z nh rt : Bool) (k : Nat) :
    0 ≤ held ((actsAddPacked t s cs z nh rt).take k) ∧ held ((actsAddPacked t s cs z nh rt).take k) ≤ 2 :=
  (run_addPacked t s cs z nh rt).bounded k

theorem bounded_packAll (t : Tab) (s : St) (order : List Nat) (zs : List Bool) (cl : Bool) (k : Nat) :
    0 ≤ held ((actsPackAll t s order zs cl).take k) ∧ held ((actsPackAll t s order zs cl).take k) ≤ 2 :=
  (run_packAll t s order zs cl).bounded k

theorem bounded_clean (s : St) (order : List Nat) (k : Nat) : held ((actsClean s order).take k) = 0 :=
  held_take_zero (all_map_of (fun _ => rfl) order) k

theorem bounded_delete (s : St) (ks : List Nat) (k : Nat) : held ((actsDelete s ks).take k) = 0 :=
  held_take_zero (delta_delete s ks) k

theorem bounded_repackPack (t : Tab) (s : St) (p : Nat) (zs : List Bool) (k : Nat) :
    0 ≤ held ((actsRepackPack t s p zs).take k) ∧ held ((actsRepackPack t s p zs).take k) ≤ 2 :=
  (run_repackPack t s p zs).bounded k

/-- `heldBy = held` fails one action into every non-empty direct-to-pack write: the lock file is open, the pack is not yet -/
theorem heldBy_exec_addPacked_offByOne_witness (t : Tab) (s : St) (c : Nat) (z nh rt : Bool) :
    heldBy (execAll (ofSt s) ((actsAddPacked t s [c] z nh rt).take 1)) = 2 ∧
    held ((actsAddPacked t s [c] z nh rt).take 1) = 1 := by
  -- every branch of `wAddPacked` starts with what `wOpen` emits on a closed state: `lock p, pkOpen p`
  have hw : ∃ rest, (wAddPacked t z nh rt { s := s, openP := none, rows := [], acts := [] } c).acts
      = .lock (openCur t s).cur :: rest := by
    refine List.head?_eq_some_iff.mp ?_
    unfold wAddPacked
    simp only
    split <;> (try split) <;> rfl
  have e : ∃ rest, actsAddPacked t s [c] z nh rt = .lock (openCur t s).cur :: rest := by
    obtain ⟨rest, hw⟩ := hw
    unfold actsAddPacked wFinish
    simp only [List.foldl]
    split
    · rw [hw]; exact ⟨_, rfl⟩
    · rw [hw]; exact ⟨_, rfl⟩
  obtain ⟨rest, e⟩ := e
  rw [e]
  exact ⟨rfl, rfl⟩

theorem heldBy_exec_addPacked (t : Tab) (s : St) (cs : List Nat) (z nh rt : Bool) (k : Nat) :
    heldBy (execAll (ofSt s) ((actsAddPacked t s cs z nh rt).take k)) =
      held ((actsAddPacked t s cs z nh rt).take k) + (if midPair ((actsAddPacked t s cs z nh rt).take k) then 1 else 0) :=
  (Run.forall_take (fun h => (h.agree (x0 := ofSt s) rfl rfl).1) (run_addPacked t s cs z nh rt) k :)

theorem heldBy_exec_addPacked_of_not_mid (t : Tab) (s : St) (cs : List Nat) (z nh rt : Bool) (k : Nat)
    (h : midPair ((actsAddPacked t s cs z nh rt).take k) = false) :
    heldBy (execAll (ofSt s) ((actsAddPacked t s cs z nh rt).take k)) = held ((actsAddPacked t s cs z nh rt).take k) := by
  rw [heldBy_exec_addPacked, h]; exact Int.add_zero _

theorem heldBy_exec_addPacked_bounds (t : Tab) (s : St) (cs : List Nat) (z nh rt : Bool) (k : Nat) :
    held ((actsAddPacked t s cs z nh rt).take k) ≤ heldBy (execAll (ofSt s) ((actsAddPacked t s cs z nh rt).take k)) ∧
    heldBy (execAll (ofSt s) ((actsAddPacked t s cs z nh rt).take k)) ≤ held ((actsAddPacked t s cs z nh rt).take k) + 1 ∧
    heldBy (execAll (ofSt s) ((actsAddPacked t s cs z nh rt).take k)) ≤ 2 := by
  obtain ⟨e, le⟩ := Run.forall_take (fun h => h.agree (x0 := ofSt s) rfl rfl) (run_addPacked t s cs z nh rt) k
  -- `heldBy` is `held` plus a correction that is 0 or 1
  refine ⟨e ▸ Int.le_add_of_nonneg_right ?_, e ▸ Int.add_le_add_left ?_ _, le⟩ <;> split <;> decide

theorem heldBy_exec_addPacked_done (t : Tab) (s : St) (cs : List Nat) (z nh rt : Bool) :
    heldBy (execAll (ofSt s) (actsAddPacked t s cs z nh rt)) = held (actsAddPacked t s cs z nh rt) := by
  -- the program ends outside every pair
  have g := run_addPacked t s cs z nh rt
  rw [(g.agree (x0 := ofSt s) rfl rfl).1, g.spec.2.1]; exact Int.add_zero _

/-- after a fault anywhere the handlers (`finally` blocks) release every descriptor; true of any action list
    (`runFault_heldBy`) -/
theorem fault_releases_addPacked (t : Tab) (s : St) (cs : List Nat) (z nh rt : Bool) (k : Nat) :
    heldBy (runFault (ofSt s) (actsAddPacked t s cs z nh rt) k) = 0 :=
  runFault_heldBy _ _ _

theorem fault_releases_addLoose (s : St) (c : Nat) (mk : Bool) (k : Nat) :
    heldBy (runFault (ofSt s) (actsAddLoose s c mk) k) = 0 :=
  runFault_heldBy _ _ _

/-- ⌈size / chunk⌉, one chunk at a time -/
theorem ceil_step {chunk size : Nat} (hc : 0 < chunk) (hs : 0 < size) :
    (size - min chunk size + chunk - 1) / chunk + 1 = (size + chunk - 1) / chunk := by
  by_cases hle : chunk ≤ size
  · rw [Nat.min_eq_left hle, Nat.sub_add_cancel hle, ← Nat.add_div_right _ hc, Nat.sub_add_comm hs]
  · have hlt : size < chunk := Nat.lt_of_not_le hle
    rw [Nat.min_eq_right (Nat.le_of_lt hlt), Nat.sub_self, Nat.zero_add, Nat.div_eq_of_lt (Nat.sub_lt hc Nat.one_pos)]
    refine (Nat.div_eq_of_lt_le ?_ ?_).symm
    · rw [Nat.one_mul]; exact Nat.le_sub_of_add_le (Nat.add_comm size chunk ▸ Nat.add_le_add_left hs chunk)
    · show size + chunk - 1 < 2 * chunk
      rw [Nat.two_mul]
      exact Nat.lt_of_lt_of_le (Nat.sub_lt (Nat.add_pos_left hs _) Nat.one_pos) (Nat.add_le_add_right (Nat.le_of_lt hlt) _)

theorem pieces_spec (chunk : Nat) (hc : 0 < chunk) (f size : Nat) (h : size ≤ f) :
    (∀ n ∈ pieces chunk f size, 0 < n ∧ n ≤ chunk) ∧ (pieces chunk f size).sum = size ∧
    (pieces chunk f size).length = (size + chunk - 1) / chunk := by
  have z : 0 = (0 + chunk - 1) / chunk := by rw [Nat.zero_add, Nat.div_eq_of_lt (Nat.sub_lt hc Nat.one_pos)]
  fun_induction pieces chunk f size with
  | case1 size => cases Nat.le_zero.mp h; exact ⟨nofun, rfl, z⟩
  | case2 f _ => exact ⟨nofun, rfl, z⟩
  | case3 f size hs ih =>
    have hs := Nat.pos_of_ne_zero hs
    have hm : 0 < min chunk size := Nat.lt_min.mpr ⟨hc, hs⟩
    obtain ⟨i1, i2, i3⟩ := ih (Nat.sub_le_of_le_add (Nat.le_trans h (Nat.add_le_add_left hm f)))
    refine ⟨?_, ?_, ?_⟩
    · intro m hm'
      rcases List.mem_cons.mp hm' with rfl | hm'
      · exact ⟨hm, Nat.min_le_left _ _⟩
      · exact i1 m hm'
    · rw [List.sum_cons, i2]; exact Nat.add_sub_cancel' (Nat.min_le_right _ _)
    · rw [List.length_cons, i3]; exact ceil_step hc hs

/-- the streaming loops: the per-call buffer is bounded by the chunk size whatever the object size -/
theorem chunkSizes_spec (chunk size : Nat) (hc : 0 < chunk) :
    (∀ n ∈ chunkSizes chunk size, 0 < n ∧ n ≤ chunk) ∧ (chunkSizes chunk size).sum = size ∧
    (chunkSizes chunk size).length = (size + chunk - 1) / chunk := by
  unfold chunkSizes
  rw [if_neg (by omega)]
  exact pieces_spec chunk hc size size (Nat.le_refl _)

end Dos.Fd
