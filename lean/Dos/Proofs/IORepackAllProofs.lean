/-
The full `repack()`: between two packs the store is quiescent again (`path_repackPack`), with the keys of the start, so the
paths of the single packs compose.
-/
import Dos.IORepackAll
import Dos.Proofs.IORepack

namespace Dos.IO.Repack

theorem path_repackAll {t : Tab} (plan : List (Nat × List Bool)) :
    ∀ (s : St), Inv t s → NoTmp s → planOK t s plan = true →
      ∃ s', GoodPath t (keysOf s) (ofSt s) (actsRepackAll t s plan) (ofSt s') ∧ keysOf s' = keysOf s := by
  induction plan with
  | nil => intro s inv _ _; exact ⟨s, .nil (Imp.gw_ofSt inv), rfl⟩
  | cons e rest ih =>
    obtain ⟨p, zs⟩ := e
    intro s inv nt hp
    simp only [planOK, Bool.and_eq_true, bne_iff_ne] at hp
    obtain ⟨s1, h, nt1, k⟩ := path_repackPack inv nt p hp.1.1 zs
    have inv1 : Inv t s1 := toSt_ofSt s1 ▸ Imp.gc_inv h.end.com h.end.tgt
    simp only [actsRepackAll, h.2, toSt_ofSt] at hp ⊢
    obtain ⟨s', h', k'⟩ := ih s1 inv1 nt1 hp.2
    exact ⟨s', h.append (k ▸ h'), k'.trans k⟩

end Dos.IO.Repack

namespace Dos.IO

theorem safe_repackAll {t : Tab} (wf : t.WF) {s : St} (inv : Inv t s) (hb : Bounded s) (nt : NoTmp s)
    (plan : List (Nat × List Bool)) (hp : planOK t s plan = true) :
    AllSafe t s (actsRepackAll t s plan) (keysOf s) := by
  have _ := hb
  obtain ⟨_, h, _⟩ := Repack.path_repackAll plan s inv nt hp
  exact allSafe_of_gw wf h.1

/-- compiling the next pack from `toSt` of the state reached loses nothing -/
theorem quiescent_repackPack {t : Tab} {s : St} (inv : Inv t s) (nt : NoTmp s) (p : Nat) (hp : p ≠ tmpId)
    (zs : List Bool) :
    ofSt (toSt (execAll (ofSt s) (actsRepackPack t s p zs))) = execAll (ofSt s) (actsRepackPack t s p zs) := by
  obtain ⟨s1, h, _⟩ := Repack.path_repackPack inv nt p hp zs
  rw [h.2, toSt_ofSt]

end Dos.IO
