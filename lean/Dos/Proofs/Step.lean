/-
`Inv` and the refinement of the plain key set (C02), for every finite history.
-/
import Dos.Proofs.HasStep

namespace Dos

theorem inv_step {t : Tab} (wf : t.WF) {s s' : St} (inv : Inv t s) {op : Op} (h : step t s op = some s') :
    Inv t s' := by
  have _ := wf
  cases op with
  | addLoose c => exact Option.some.inj h ▸ inv_addLoose inv c
  | addPacked cs z nh => exact Option.some.inj h ▸ inv_addPacked inv cs z nh
  | packAll m order zs cl => exact inv_packAll inv h
  | clean => exact Option.some.inj h ▸ inv_clean inv
  | delete ks => exact Option.some.inj h ▸ inv_delete inv ks
  | repack m plan => exact inv_repackAll inv h
  | loosen k => exact inv_loosen inv h
  | reopen => exact Option.some.inj h ▸ inv_reopen inv
  | importObjs w o z same tr => exact inv_importObjs inv h

theorem run_cons_eq_some {t : Tab} {s s' : St} {op : Op} {ops : List Op} :
    run t s (op :: ops) = some s' ↔ ∃ s1, step t s op = some s1 ∧ run t s1 ops = some s' := by
  simp only [run]
  cases step t s op <;> simp

theorem run_induct {t : Tab} {P : St → Prop} {ok : Op → Prop}
    (hstep : ∀ {s s' : St} {op : Op}, ok op → P s → step t s op = some s' → P s') :
    ∀ {ops : List Op} {s s' : St}, (∀ op ∈ ops, ok op) → P s → run t s ops = some s' → P s'
  | [], _, _, _, hp, h => Option.some.inj h ▸ hp
  | op :: _, _, _, hops, hp, h =>
    let ⟨_, hs, h⟩ := run_cons_eq_some.mp h
    run_induct hstep (fun o ho => hops o (List.mem_cons_of_mem _ ho)) (hstep (hops op List.mem_cons_self) hp hs) h

theorem inv_run {t : Tab} (wf : t.WF) {ops : List Op} {s s' : St} (inv : Inv t s) (h : run t s ops = some s') :
    Inv t s' :=
  run_induct (ok := fun _ => True) (fun _ i hs => inv_step wf i hs) (fun _ _ => trivial) inv h

/-- the plain key set after a whole history -/
def specRun (h : Nat → Bool) : List Op → Nat → Bool
  | [] => h
  | op :: ops => specRun (specHas h op) ops

theorem has_run {t : Tab} (wf : t.WF) {ops : List Op} {s s' : St} (inv : Inv t s) (h : run t s ops = some s')
    (k : Nat) : has s' k = specRun (has s) ops k := by
  induction ops generalizing s with
  | nil => rw [← Option.some.inj h]; rfl
  | cons op ops ih =>
    obtain ⟨s1, hs, h⟩ := run_cons_eq_some.mp h
    rw [ih (inv_step wf inv hs) h, funext (has_step wf inv hs)]
    rfl

end Dos
