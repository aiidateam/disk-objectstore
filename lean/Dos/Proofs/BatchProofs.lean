/-
Batch sizes cannot matter: the batched index queries of `pack_all_loose`, `clean_storage` and `delete_objects` compute the
Level-B operations.
-/
import Dos.Batch
import Dos.Proofs.Basic
import Dos.Proofs.MergeProofs

namespace Dos.Batch
open Dos.Merge

theorem mem_packedAmong {t : Tab} {s : St} (inv : Inv t s) (inMax scanMax : Nat) (hin : 0 < inMax) (k : Nat) :
    k ∈ packedAmong s inMax scanMax ↔ (k ∈ rowKeys s ∧ k ∈ looseKeys s) :=
  (bulkFind_spec (rowKeys s) (looseKeys s) inv.keys_nodup inv.loose_nodup inMax scanMax hin).2 k

theorem mem_deletedPacked (s : St) (ks : List Nat) (inMax : Nat) (hin : 0 < inMax) (k : Nat) :
    k ∈ deletedPacked s ks inMax ↔ (k ∈ rowKeys s ∧ k ∈ ks) := by
  rw [deletedPacked, mem_flatMap_filter_contains, (chunkIter_spec inMax hin ks).1]

theorem packTargets_eq {t : Tab} {s : St} (inv : Inv t s) (inMax scanMax : Nat) (hin : 0 < inMax) :
    packTargets s inMax scanMax = toPack s :=
  filter_not_contains_of_inter (mem_packedAmong inv inMax scanMax hin) id fun _ h => h

theorem cleanBatched_eq {t : Tab} {s : St} (inv : Inv t s) (inMax scanMax : Nat) (hin : 0 < inMax) :
    cleanBatched s inMax scanMax = clean s :=
  congrArg (fun l => { s with loose := l })
    (filter_not_contains_of_inter (mem_packedAmong inv inMax scanMax hin) (·.1) fun _ he => List.mem_map_of_mem he)

theorem deleteBatched_eq {t : Tab} {s : St} (inv : Inv t s) (ks : List Nat) (inMax : Nat) (hin : 0 < inMax) :
    (deleteBatched s ks inMax).1 = (delete s ks).1 ∧
    ∀ k, k ∈ (deleteBatched s ks inMax).2 ↔ k ∈ (delete s ks).2 := by
  have _ := inv
  constructor
  · exact congrArg (fun l => { s with loose := s.loose.filter (fun e => !ks.contains e.1), rows := l })
      (filter_not_contains_of_inter (fun k => (mem_deletedPacked s ks inMax hin k).trans and_comm) (·.key)
        fun _ hr => List.mem_map_of_mem hr)
  · intro k
    show k ∈ (ks.filter (fun k => hasLoose s k) ++ deletedPacked s ks inMax).eraseDups
        ↔ k ∈ (ks.filter (fun k => hasLoose s k || hasRow s k)).eraseDups
    rw [List.mem_eraseDups, List.mem_eraseDups, List.mem_append, List.mem_filter, List.mem_filter,
      mem_deletedPacked s ks inMax hin, Bool.or_eq_true, hasRow, List.contains_iff_mem, and_comm (a := k ∈ rowKeys s),
      and_or_left]

theorem deleteBatched_nodup (s : St) (ks : List Nat) (inMax : Nat) : (deleteBatched s ks inMax).2.Nodup :=
  eraseDups_nodup _

end Dos.Batch
