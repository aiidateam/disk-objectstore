/-
Compression modes (C10) at Level B.
-/
import Dos.Proofs.Step

namespace Dos

theorem verdictOK_yes {z z' : Bool} {len size : Nat} : verdictOK .yes z len size z' = true ↔ z' = true := beq_iff_eq

theorem verdictOK_no {z z' : Bool} {len size : Nat} : verdictOK .no z len size z' = true ↔ z' = false := beq_iff_eq

theorem verdictOK_keep {z z' : Bool} {len size : Nat} : verdictOK .keep z len size z' = true ↔ z' = z := beq_iff_eq

theorem row_size_len {t : Tab} {s : St} (inv : Inv t s) {r : Row} (hr : r ∈ s.rows) :
    r.size = t.size r.key ∧ r.len = (if r.z then t.zlen r.key else t.size r.key) ∧ (r.z = false → r.len = r.size) := by
  have hs := (inv.rows_ok r hr).size
  have hl : r.len = if r.z then t.zlen r.key else t.size r.key := (inv.rows_ok r hr).len
  refine ⟨hs, hl, fun hz => ?_⟩
  rw [hl, hs, hz]
  rfl

theorem packAll_rows_sublist {t : Tab} {s s' : St} {m : Mode} {order : List Nat} {zs : List Bool} {cl : Bool}
    (h : packAll t s m order zs cl = some s') : s.rows.Sublist s'.rows := by
  obtain ⟨s1, hw, rfl⟩ := packAll_session h
  exact hw.rows_sublist

theorem packAll_rows_kept {t : Tab} {s s' : St} {m : Mode} {order : List Nat} {zs : List Bool} {cl : Bool}
    (h : packAll t s m order zs cl = some s') : ∀ r ∈ s.rows, r ∈ s'.rows :=
  fun _ hr => (packAll_rows_sublist h).subset hr

/-- `pack_all_loose`: a new row belongs to a loose-only key and is stored as the mode demands (KEEP: uncompressed, as loose
    objects are) -/
theorem packAll_new_rows {t : Tab} {s s' : St} (inv : Inv t s) {m : Mode} {order : List Nat} {zs : List Bool} {cl : Bool}
    (h : packAll t s m order zs cl = some s') :
    ∀ r ∈ s'.rows, r ∈ s.rows ∨
      (r.key ∈ toPack s ∧ (m = .yes → r.z = true) ∧ (m = .no → r.z = false) ∧ (m = .keep → r.z = false)) := by
  have _ := inv
  obtain ⟨⟨_, hperm⟩, _, _, hv, _⟩ := packAll_eq_some.mp h
  obtain ⟨s1, hw, rfl⟩ := packAll_session h
  intro r hr
  refine (hw.new_rows r hr).imp id fun ⟨hm, _⟩ => ?_
  -- `r` was written for the pair `(r.key, r.z)` of the order and the verdicts, and that verdict was admissible
  have hv := hv _ hm
  exact ⟨(mem_of_isPerm hperm _).mp (List.of_mem_zip hm).1, fun e => verdictOK_yes.mp (e ▸ hv),
    fun e => verdictOK_no.mp (e ▸ hv), fun e => verdictOK_keep.mp (e ▸ hv)⟩

theorem repackPack_rows {t : Tab} {s s' : St} (inv : Inv t s) {m : Mode} {p : Nat} {order : List Nat} {zs : List Bool}
    (h : repackPack t s m p order zs = some s') :
    s'.rows.map (·.key) = s.rows.map (·.key) ∧
    (∀ r' ∈ s'.rows, ∃ r ∈ s.rows, r'.key = r.key ∧ r'.id = r.id ∧ r'.size = r.size ∧ r'.pack = r.pack ∧
        (r.pack ≠ p → r' = r) ∧
        (r.pack = p → verdictOK m r.z r.len r.size r'.z = true)) := by
  refine ⟨(repackPack_keys_loose h).1, ?_⟩
  rcases repackPack_eq_some.mp h with ⟨hnil, _, rfl⟩ | ⟨_, ho, hlen, hall, rfl⟩
  · intro r' hr'
    exact ⟨r', hr', rfl, rfl, rfl, rfl, fun _ => rfl,
      fun hp => absurd (hnil ▸ mem_rowsOfPack.mpr ⟨hr', hp⟩) List.not_mem_nil⟩
  · intro r' hr'
    obtain ⟨r, hr, rfl⟩ := List.mem_map.mp hr'
    by_cases hp : r.pack = p
    · obtain ⟨c, hz⟩ := repackRow_spec inv p p zs hr hp
      -- the flag of the copy is the verdict paired with `r`, and that verdict was admissible
      exact ⟨r, hr, c.key, c.id, c.size, c.pack.trans hp.symm, fun hne => absurd hp hne,
        fun _ => hall _ (hz (by rw [hlen, ho, List.length_map]))⟩
    · rw [repackRow_of_ne _ hp]
      exact ⟨r, hr, rfl, rfl, rfl, rfl, fun _ => rfl, fun h => absurd h hp⟩

theorem repackAll_forced {t : Tab} {m : Mode} (P : Bool → Prop)
    (hP : ∀ z len size z', verdictOK m z len size z' = true → P z')
    {plan : List (Nat × List Nat × List Bool)} {s s' : St} (inv : Inv t s)
    (h : repackAll t m s plan = some s') :
    ∀ r ∈ s'.rows, P r.z ∨ (r ∈ s.rows ∧ r.pack ∉ plan.map (·.1)) := by
  induction plan generalizing s with
  | nil => exact repackAll_nil_eq_some.mp h ▸ fun r hr => Or.inr ⟨hr, List.not_mem_nil⟩
  | cons e rest ih =>
    obtain ⟨s1, hs1, h⟩ := repackAll_cons_eq_some.mp h
    intro r' hr'
    rcases ih (inv_repackPack inv hs1) h r' hr' with hp | ⟨hm1, hnot⟩
    · exact Or.inl hp
    · obtain ⟨r, hr, _, _, _, hpk, hne, heq⟩ := (repackPack_rows inv hs1).2 r' hm1
      by_cases hp : r.pack = e.1
      · exact Or.inl (hP _ _ _ _ (heq hp))
      · obtain rfl : r' = r := hne hp
        exact Or.inr ⟨hr, fun hm => (List.mem_cons.mp hm).elim hp hnot⟩

/-- a repack whose plan names the pack of every row leaves every object compressed with YES, uncompressed with NO
    (`repackAll_no`); with KEEP, whatever the plan, every row keeps flag, size and stored length (`repackAll_keep`) -/
theorem repackAll_yes {t : Tab} {plan : List (Nat × List Nat × List Bool)} {s s' : St} (inv : Inv t s)
    (h : repackAll t .yes s plan = some s') (cover : ∀ r ∈ s.rows, r.pack ∈ plan.map (·.1)) :
    ∀ r ∈ s'.rows, r.z = true := fun r hr =>
  (repackAll_forced (· = true) (fun _ _ _ _ => verdictOK_yes.mp) inv h r hr).elim id
    fun ⟨h1, h2⟩ => absurd (cover r h1) h2

theorem repackAll_no {t : Tab} {plan : List (Nat × List Nat × List Bool)} {s s' : St} (inv : Inv t s)
    (h : repackAll t .no s plan = some s') (cover : ∀ r ∈ s.rows, r.pack ∈ plan.map (·.1)) :
    ∀ r ∈ s'.rows, r.z = false := fun r hr =>
  (repackAll_forced (· = false) (fun _ _ _ _ => verdictOK_no.mp) inv h r hr).elim id
    fun ⟨h1, h2⟩ => absurd (cover r h1) h2

theorem repackAll_keep {t : Tab} {plan : List (Nat × List Nat × List Bool)} {s s' : St} (inv : Inv t s)
    (h : repackAll t .keep s plan = some s') :
    ∀ r' ∈ s'.rows, ∃ r ∈ s.rows, r'.key = r.key ∧ r'.z = r.z ∧ r'.size = r.size ∧ r'.len = r.len := by
  induction plan generalizing s with
  | nil => exact repackAll_nil_eq_some.mp h ▸ fun r hr => ⟨r, hr, rfl, rfl, rfl, rfl⟩
  | cons e rest ih =>
    obtain ⟨s1, hs1, h⟩ := repackAll_cons_eq_some.mp h
    have inv1 := inv_repackPack inv hs1
    intro r' hr'
    obtain ⟨r1, hr1, hk1, hz1, hs1', hl1⟩ := ih inv1 h r' hr'
    obtain ⟨r, hr, hk, _, hsz, _, hne, heq⟩ := (repackPack_rows inv hs1).2 r1 hr1
    have hz : r1.z = r.z := by
      by_cases hp : r.pack = e.1
      · exact verdictOK_keep.mp (heq hp)
      · rw [hne hp]
    -- the stored length is determined by key and flag
    have hl : r1.len = r.len := by
      rw [(row_size_len inv1 hr1).2.1, (row_size_len inv hr).2.1, hz, hk]
    exact ⟨r, hr, by rw [hk1, hk], by rw [hz1, hz], by rw [hs1', hsz], by rw [hl1, hl]⟩

theorem repackPack_ids_sizes {t : Tab} {m : Mode} {p : Nat} {order : List Nat} {zs : List Bool} {s s' : St} (inv : Inv t s)
    (h : repackPack t s m p order zs = some s') :
    s'.rows.map (·.id) = s.rows.map (·.id) ∧ s'.rows.map (·.size) = s.rows.map (·.size) := by
  rcases repackPack_eq_some.mp h with ⟨_, _, rfl⟩ | ⟨_, _, _, _, rfl⟩
  · exact ⟨rfl, rfl⟩
  · exact ⟨movedRows_ids inv p p zs, movedRows_sizes inv p p zs⟩

theorem repackAll_keys {t : Tab} {m : Mode} {plan : List (Nat × List Nat × List Bool)} {s s' : St} (inv : Inv t s)
    (h : repackAll t m s plan = some s') :
    s'.rows.map (·.key) = s.rows.map (·.key) ∧ s'.rows.map (·.id) = s.rows.map (·.id) ∧
    s'.rows.map (·.size) = s.rows.map (·.size) ∧ s'.loose = s.loose := by
  induction plan generalizing s with
  | nil => exact repackAll_nil_eq_some.mp h ▸ ⟨rfl, rfl, rfl, rfl⟩
  | cons e rest ih =>
    obtain ⟨s1, hs1, h⟩ := repackAll_cons_eq_some.mp h
    obtain ⟨a1, a4⟩ := repackPack_keys_loose hs1
    obtain ⟨a2, a3⟩ := repackPack_ids_sizes inv hs1
    obtain ⟨b1, b2, b3, b4⟩ := ih (inv_repackPack inv hs1) h
    exact ⟨b1.trans a1, b2.trans a2, b3.trans a3, b4.trans a4⟩

end Dos
