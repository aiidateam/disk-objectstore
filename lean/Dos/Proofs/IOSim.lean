/-
One induction over `Emits` gives, for every session end `e` that leads from `Mid` to `Idle` (`Ends`): the invariant holds
after every prefix of the action list, and the completed run is the Level-B result.
-/
import Dos.Proofs.IOGood
import Dos.Proofs.IOEmits
import Dos.Proofs.Session

namespace Dos.IO.Imp

/-- Between two sessions: the Level-C state `x` and the Level-B state `b` that the compiler carries.  The transaction may
    be open (`do_commit=False`): `b` sees the working copy `workOf x` (`rows`), which satisfies `GC` as the committed index
    does (`wrk`), so that it can be committed. -/
structure Idle (fl : Bool) (t : Tab) (keep : List Nat) (x : XSt) (b : St) : Prop where
  good : GW fl t keep x
  wrk : GC fl t keep x.packs (workOf x) x.loose
  packs : segsOf x.packs = b.packs
  locks : x.locks = []
  rows : workOf x = b.rows
  inv : Inv t b
  loose : x.loose.map (fun e => (e.1, e.2.cid)) = b.loose
  target : x.target = b.target

/-- Inside a session on pack `q`; `rs`: the rows to be inserted at its end, by which the Level-B state is ahead of the
    index (`rows`). -/
structure Mid (fl : Bool) (t : Tab) (keep : List Nat) (x : XSt) (b : St) (q : Nat) (rs : List Row) : Prop where
  good : GW fl t keep x
  wrk : GC fl t keep x.packs (workOf x) x.loose
  packs : segsOf x.packs = b.packs
  locks : x.locks = [q]
  rows : rs.foldl insertIgnore (workOf x) = b.rows
  inv : Inv t b
  ex : getX x.packs q ≠ none
  rpack : ∀ r ∈ rs, r.pack = q
  loose : x.loose.map (fun e => (e.1, e.2.cid)) = b.loose
  target : x.target = b.target

variable {fl : Bool} {t : Tab} {keep : List Nat} {x : XSt} {b : St} {q : Nat} {rs : List Row}

theorem idle_ofSt {s : St} (inv : Inv t s) : Idle fl t (keysOf s) (ofSt s) s :=
  have g : GW fl t (keysOf s) (ofSt s) := gw_ofSt inv
  { good := g
    wrk := g.com
    packs := segsOf_ofSt s
    locks := rfl
    rows := rfl
    inv := inv
    loose := congrArg St.loose (toSt_ofSt s)
    target := rfl }

theorem idle_open (h : Idle fl t keep x b) (p : Nat) :
    AllP (GW fl t keep) x [.lock p, .pkOpen p] ∧
    Mid fl t keep (execAll x [.lock p, .pkOpen p]) { b with cur := p, packs := ensurePack b.packs p } p [] := by
  have ag : AllP (GW fl t keep) x [.lock p, .pkOpen p] := allP_plain h.good (List.all_eq_true.mp rfl)
  have e : execAll x [.lock p, .pkOpen p] = { x with locks := p :: x.locks, packs := openPacks x.packs p } :=
    exec_pkOpen (exec x (.lock p)) p
  have gE := allP_end ag
  rw [e] at gE ⊢
  exact ⟨ag,
    { good := gE
      wrk := gc_open h.wrk p
      packs := by rw [← h.packs]; exact segsOf_openPacks _ _
      locks := congrArg (p :: ·) h.locks
      rows := h.rows
      inv := inv_open_at h.inv p
      ex := by rw [getX_openPacks, if_pos rfl]; exact Option.some_ne_none _
      rpack := fun _ h => nomatch h
      loose := h.loose
      target := h.target }⟩

theorem mid_getPack (m : Mid fl t keep x b q rs) : ∃ pk, getX x.packs q = some pk ∧ getPack b.packs q = some pk.segs := by
  cases hg : getX x.packs q with
  | none => exact absurd hg m.ex
  | some pk => exact ⟨pk, rfl, by rw [← m.packs, getPack_segsOf, hg]; rfl⟩

theorem mid_reopen (m : Mid fl t keep x b q rs) : Mid fl t keep x { b with cur := q, packs := ensurePack b.packs q } q rs := by
  obtain ⟨pk, _, hb⟩ := mid_getPack m
  rw [ensurePack_of_some (by rw [hb]; exact Option.some_ne_none _)]
  exact { m with inv := inv_set_cur m.inv q }

theorem mid_write (m : Mid fl t keep x b q rs) (c : Nat) (z : Bool) (hq : choosePack t b = q) :
    Mid fl t keep (exec x (.pkWrite q ⟨c, z⟩)) (writeObj t b c z) q (rs ++ [rowFor t b q c z]) := by
  obtain ⟨pk, hx, hb⟩ := mid_getPack m
  exact { m with
    good := m.good.setPacks (gc_write m.good.com _ _)
    wrk := gc_write m.wrk _ _
    packs := by
      show segsOf (updX x.packs q _) = (writeObj t b c z).packs
      rw [segsOf_updX, hx]
      simp only [writeObj, hq, hb, Option.getD_some, m.packs]
    rows := by
      show (rs ++ [rowFor t b q c z]).foldl insertIgnore (workOf x) = (writeObj t b c z).rows
      rw [List.foldl_append, m.rows]
      simp only [writeObj, hq, rowFor, List.foldl_cons, List.foldl_nil]
    inv := inv_writeObj m.inv c z
    ex := mt getX_updX_eq_none.mp m.ex
    rpack := fun r hr => (List.mem_append.mp hr).elim (m.rpack r) fun h => List.mem_singleton.mp h ▸ rfl }

/-- `pkTruncate q 0` is not the identity: everything written so far counts as flushed -/
theorem exec_write_trunc (x : XSt) (q : Nat) (sg : Seg) :
    execAll x [.pkWrite q sg, .pkTruncate q 1] = exec x (.pkTruncate q 0) := by
  show ({ x with packs := updX (updX x.packs q _) q _ } : XSt) = { x with packs := updX x.packs q _ }
  rw [updX_updX]
  refine congrArg (fun f => ({ x with packs := updX x.packs q f } : XSt)) (funext fun pk => ?_)
  have e : (pk.segs ++ [sg]).take ((pk.segs ++ [sg]).length - 1) = pk.segs.take (pk.segs.length - 0) := by
    rw [List.length_append, List.length_singleton, Nat.add_sub_cancel, List.take_left', Nat.sub_zero, List.take_length]
    rfl
  simp only [e]

theorem mid_trunc0 (m : Mid fl t keep x b q rs) : Mid fl t keep (exec x (.pkTruncate q 0)) b q rs :=
  { m with
    good := gw_plain m.good rfl
    wrk := gc_truncate m.wrk q 0 fun _ hg => (m.wrk.pk_le _ _ hg).2
    packs := (segsOf_updX_same x.packs q _ fun _ => List.take_length).trans m.packs
    ex := mt getX_updX_eq_none.mp m.ex }

theorem mid_write_trunc (m : Mid fl t keep x b q rs) (sg : Seg) :
    AllP (GW fl t keep) x [.pkWrite q sg, .pkTruncate q 1] ∧
    Mid fl t keep (execAll x [.pkWrite q sg, .pkTruncate q 1]) b q rs := by
  have m1 := exec_write_trunc x q sg ▸ mid_trunc0 m
  exact ⟨allP_cons m.good (allP_single (m.good.setPacks (gc_write m.good.com q sg)) m1.good), m1⟩

theorem exec_inserts (rs : List Row) (x : XSt) : execAll x (rs.map .sqlInsert) =
    { x with work := if rs = [] then x.work else some (rs.foldl insertIgnore (workOf x)) } := by
  induction rs generalizing x with
  | nil => rfl
  | cons r rs ih =>
    refine (ih _).trans ?_
    cases rs <;> rfl

def endO (q : Nat) (rs : List Row) (trunc df : Bool) : List Act :=
  (if trunc then [.pkTruncate q 0] else []) ++ rs.map .sqlInsert ++
  (if df then [.pkFlush q, .pkFsync q, .dirSync] else []) ++ [.pkClose q, .unlock q]

theorem sessionEndO_eq (q : Nat) (rs : List Row) (trunc df dc : Bool) :
    sessionEndO q rs trunc df dc = endO q rs trunc df ++ (if dc && !rs.isEmpty then [.sqlCommit] else []) := by
  simp only [sessionEndO, endO, List.append_assoc]

theorem endO_plain (q : Nat) (rs : List Row) (trunc df : Bool) : ∀ a ∈ endO q rs trunc df, plain a = true :=
  List.all_eq_true.mp (all_append_of (all_append_of (all_append_of (all_ite_of rfl rfl) (all_map_of (fun _ => rfl) rs))
    (all_ite_of rfl rfl)) rfl)

def endPk (df : Bool) (pk : XPack) : XPack :=
  { segs := pk.segs, flushed := pk.segs.length, synced := if df then pk.segs.length else pk.synced }

theorem exec_endO (x : XSt) (q : Nat) (rs : List Row) (df : Bool) :
    execAll x (endO q rs false df) =
      { x with packs := updX x.packs q (endPk df),
               work := if rs = [] then x.work else some (rs.foldl insertIgnore (workOf x)),
               locks := x.locks.filter (· != q) } := by
  unfold endO
  rw [if_neg Bool.false_ne_true, List.nil_append, execAll_append, execAll_append, exec_inserts]
  cases df <;> simp only [Bool.false_eq_true, if_false, if_true, execAll, exec, updX_updX] <;> rfl

theorem endPk_ok (df : Bool) (hfs : fl = false → df = true) (pk : XPack) (a : pk.synced ≤ pk.flushed)
    (b : pk.flushed ≤ pk.segs.length) :
    (endPk df pk).synced ≤ (endPk df pk).flushed ∧
    pk.segs.take (wm fl pk) <+: (endPk df pk).segs.take (wm fl (endPk df pk)) ∧
    wm fl (endPk df pk) = pk.segs.length := by
  cases df
  · cases fl
    · cases hfs rfl
    · exact ⟨Nat.le_trans a b, List.take_prefix_take_left b, rfl⟩
  · exact ⟨Nat.le_refl _, List.take_prefix_take_left (wm_mono (Nat.le_trans a b) b), by cases fl <;> rfl⟩

theorem mid_endO (m : Mid fl t keep x b q rs) (trunc df : Bool) (hfs : fl = false → df = true) :
    AllP (GW fl t keep) x (endO q rs trunc df) ∧ Idle fl t keep (execAll x (endO q rs trunc df)) b := by
  -- a truncation comes first and stays inside the session
  suffices h : ∀ {x}, Mid fl t keep x b q rs →
      AllP (GW fl t keep) x (endO q rs false df) ∧ Idle fl t keep (execAll x (endO q rs false df)) b by
    cases trunc
    · exact h m
    · exact ⟨allP_cons m.good (h (mid_trunc0 m)).1, (h (mid_trunc0 m)).2⟩
  intro x m
  have agA : AllP (GW fl t keep) x (endO q rs false df) := allP_plain m.good (endO_plain q rs false df)
  have gA := allP_end agA
  refine ⟨agA, ?_⟩
  rw [exec_endO] at gA ⊢
  obtain ⟨pk, hx, hb⟩ := mid_getPack m
  have hw : (if rs = [] then x.work else some (rs.foldl insertIgnore (workOf x))).getD x.rows = b.rows := by
    cases rs <;> exact m.rows
  have g0 : GC fl t keep (updX x.packs q (endPk df)) (workOf x) x.loose :=
    gc_updX m.wrk q _ fun pk _ h1 h2 => have e := endPk_ok df hfs pk h1 h2; ⟨e.1, Nat.le_refl _, e.2.1⟩
  -- the rows of the session lie in the pack just closed, which is flushed (and, if need be, synced) to its end
  have gC : GC fl t keep (updX x.packs q (endPk df)) b.rows x.loose := by
    refine { g0 with rows_ok := ?_, keys_nodup := m.inv.keys_nodup, ids_nodup := m.inv.ids_nodup,
                     ids_pos := m.inv.ids_pos, keep_ok := ?_ }
    · intro r hr
      rcases mem_foldl_insertIgnore _ _ _ (m.rows ▸ hr) with h | ⟨r0, h0, hp, _⟩
      · exact g0.rows_ok r h
      · have hq : r.pack = q := hp.trans (m.rpack r0 h0)
        obtain ⟨segs, hg, hs⟩ := rowOK_iff.mp (m.inv.rows_ok r hr)
        obtain rfl : pk.segs = segs := Option.some.inj (hb.symm.trans (hq ▸ hg))
        have le := m.good.com.pk_le _ _ hx
        refine ⟨endPk df pk, by rw [hq, getX_updX, if_pos rfl, hx]; rfl, ?_⟩
        rw [(endPk_ok df hfs pk le.1 le.2).2.2]
        exact (List.take_length (l := pk.segs)).symm ▸ hs
    · intro k hk
      refine (g0.keep_ok k hk).imp_left fun h => ?_
      obtain ⟨y, hy, hky⟩ := List.mem_map.mp h
      exact List.mem_map.mpr ⟨y, m.rows ▸ sub_foldl_insertIgnore _ _ _ hy, hky⟩
  exact {
    good := gA
    wrk := by
      show GC fl t keep _ (Option.getD _ _) _
      rw [hw]
      exact gC
    packs := (segsOf_updX_same x.packs q (endPk df) fun _ => rfl).trans m.packs
    locks := by show x.locks.filter (· != q) = []; rw [m.locks]; simp
    rows := hw
    inv := m.inv
    loose := m.loose
    target := m.target }

theorem idle_commit (h : Idle fl t keep x b) : Idle fl t keep (exec x .sqlCommit) b :=
  { h with good := ⟨h.wrk, h.good.sb, h.good.tgt⟩ }

theorem mid_end (m : Mid fl t keep x b q rs) (trunc df dc : Bool) (hfs : fl = false → df = true) :
    AllP (GW fl t keep) x (sessionEndO q rs trunc df dc) ∧
    Idle fl t keep (execAll x (sessionEndO q rs trunc df dc)) b := by
  obtain ⟨a1, i1⟩ := mid_endO m trunc df hfs
  rw [sessionEndO_eq]
  split
  · exact ⟨allP_append a1 (allP_single i1.good (idle_commit i1).good), execAll_append .. ▸ idle_commit i1⟩
  · exact ⟨List.append_nil _ ▸ a1, List.append_nil _ ▸ i1⟩

/-- indexed in the committed index and in the working copy: `GC` has to survive for both (`good`, `wrk`).  Every prefix of
    the unlinks is a filter of the loose files (`execAll_unlinks`), so `key` serves the prefixes and the whole. -/
theorem idle_unlinks (ks : List Nat) (h : Idle fl t keep x b)
    (hk : ∀ k ∈ ks, k ∈ x.rows.map (·.key) ∧ k ∈ (workOf x).map (·.key)) :
    AllP (GW fl t keep) x (ks.map .looseUnlink) ∧ Idle fl t keep (execAll x (ks.map .looseUnlink)) (removeLoose b ks) := by
  have key : ∀ l : List Nat, (∀ k ∈ l, k ∈ ks) → Idle fl t keep (execAll x (l.map .looseUnlink)) (removeLoose b l) := by
    intro l hl
    have hm : ∀ k, (!l.contains k) = false → k ∈ ks := fun k e => hl k (by simpa using e)
    rw [execAll_unlinks]
    exact { h with
      good := ⟨gc_filter h.good.com _ fun k e => (hk k (hm k e)).1, h.good.sb, h.good.tgt⟩
      wrk := gc_filter h.wrk _ fun k e => (hk k (hm k e)).2
      inv := inv_removeLoose h.inv _
      loose := by
        show (x.loose.filter _).map _ = b.loose.filter _
        rw [← h.loose, List.filter_map]
        rfl }
  exact ⟨fun j => List.map_take ▸ (key (ks.take j) fun _ hk => List.mem_of_mem_take hk).good, key ks fun _ hk => hk⟩

/-- what the simulation asks of a session end; when cleaning (`cl`) the end unlinks the loose files of the session's rows -/
def Ends (fl : Bool) (t : Tab) (keep : List Nat) (cl : Bool) (e : Nat → List Row → List Act) : Prop :=
  ∀ {x : XSt} {b : St} {q : Nat} {rs : List Row}, Mid fl t keep x b q rs →
    AllP (GW fl t keep) x (e q rs) ∧ Idle fl t keep (execAll x (e q rs)) (removeLoose b (gone cl (rs.map (·.key))))

/-- the direct-to-pack writers: the rows are committed (if at all) only after the `with` block has closed, hence flushed,
    the pack; with `fl = false` the pack must have been fsynced -/
theorem ends_sessionEndO (trunc df dc : Bool) (hfs : fl = false → df = true) :
    Ends fl t keep false (sessionEndO · · trunc df dc) :=
  fun m => (removeLoose_nil _).symm ▸ mid_end m trunc df dc hfs

/-- after the commit the session's rows are in the index (and the transaction is closed: `workOf` is the index) -/
theorem mid_end_committed (m : Mid fl t keep x b q rs) (df : Bool) (hfs : fl = false → df = true) :
    ∀ k ∈ rs.map (·.key), k ∈ (execAll x (sessionEndO q rs false df true)).rows.map (·.key) ∧
      k ∈ (workOf (execAll x (sessionEndO q rs false df true))).map (·.key) := by
  intro k hk
  obtain ⟨r0, h0, rfl⟩ := List.mem_map.mp hk
  have hb : r0.key ∈ b.rows.map (·.key) := m.rows ▸ key_mem_foldl_insertIgnore _ _ _ h0
  have hne : rs.isEmpty = false := List.isEmpty_eq_false_iff.mpr (List.ne_nil_of_mem h0)
  have e1 : (execAll x (sessionEndO q rs false df true)).rows = b.rows := by
    rw [sessionEndO_eq, hne, execAll_append]; exact (mid_endO m false df hfs).2.rows
  exact ⟨e1 ▸ hb, (mid_end m false df true hfs).2.rows ▸ hb⟩

/-- `pack_all_loose`: the loose files of a session are unlinked after its commit -/
theorem ends_sessionEndCleanO (cl df : Bool) (hfs : fl = false → df = true) :
    Ends fl t keep cl (sessionEndCleanO · · cl df) := by
  intro x b q rs m
  obtain ⟨a1, i1⟩ := mid_end m false df true hfs
  show AllP _ x (sessionEndO q rs false df true ++ _) ∧ Idle _ _ _ (execAll x (sessionEndO q rs false df true ++ _)) _
  cases cl
  · simp only [Bool.false_eq_true, if_false, List.append_nil]
    exact ⟨a1, (removeLoose_nil b).symm ▸ i1⟩
  · simp only [if_true]
    obtain ⟨a2, i2⟩ := idle_unlinks (rs.map (·.key)) i1 (mid_end_committed m df hfs)
    rw [map_unlink_keys]
    exact ⟨allP_append a1 a2, execAll_append .. ▸ i2⟩

/-- `ks`: the keys written so far; `D`: those of them whose loose files are gone, the rest being the keys of the session's
    rows -/
def Sim (fl : Bool) (t : Tab) (keep : List Nat) (cl : Bool) (ks : List Nat) (w : WSt) (x : XSt) : Prop :=
  ∃ D, D ++ gone cl (w.rows.map (·.key)) = gone cl ks ∧
    match w.openP with
    | none => Idle fl t keep x (removeLoose w.s D)
    | some q => Mid fl t keep x (removeLoose w.s D) q w.rows

theorem _root_.Dos.IO.Emits.sim {cl : Bool} {e : Nat → List Row → List Act} {nh : Bool} {x0 : XSt} {s0 : St}
    {ks : List Nat} {w : WSt} (he : Ends fl t keep cl e) (i : Idle fl t keep x0 s0) (h : Emits t e nh s0 ks w) :
    AllP (GW fl t keep) x0 w.acts ∧ Sim fl t keep cl ks w (execAll x0 w.acts) := by
  induction h with
  | init => exact ⟨allP_nil i.good, [], rfl, (removeLoose_nil s0).symm ▸ i⟩
  | @opn _ w _ hop hr ih =>
    obtain ⟨a0, D, hD, s⟩ := ih
    rw [hop] at s
    obtain ⟨a1, m1⟩ := idle_open s (openCur t w.s).cur
    exact ⟨allP_append a0 a1, D, hr ▸ hD, execAll_append .. ▸ m1⟩
  | @same _ w _ hop ih =>
    obtain ⟨a0, D, hD, s⟩ := ih
    rw [hop] at s
    exact ⟨a0, D, hD, by rw [hop]; exact mid_reopen s⟩
  | @ends _ w q _ hop ih =>
    obtain ⟨a0, D, hD, s⟩ := ih
    rw [hop] at s
    obtain ⟨a1, i1⟩ := he s
    exact ⟨allP_append a0 a1, D ++ gone cl (w.rows.map (·.key)), by rw [List.map_nil, gone_nil, List.append_nil, hD],
      by rw [execAll_append, ← removeLoose_append]; exact i1⟩
  | @write _ w c z _ hop hc ih =>
    obtain ⟨a0, D, hD, s⟩ := ih
    rw [hop] at s
    have m1 := mid_write s c z (hc i.inv.target_pos)
    refine ⟨allP_append a0 (allP_single s.good m1.good), D, ?_, by rw [hop, execAll_append]; exact m1⟩
    rw [gone_append, ← hD, List.map_append, gone_append, List.append_assoc]
    rfl
  | @wtrunc _ w g _ _ hop ih =>
    obtain ⟨a0, D, hD, s⟩ := ih
    rw [hop] at s
    obtain ⟨a1, m1⟩ := mid_write_trunc s g
    exact ⟨allP_append a0 a1, D, hD, by rw [hop, execAll_append]; exact m1⟩
  | @read _ w k _ ih =>
    obtain ⟨a0, D, hD, s⟩ := ih
    exact ⟨allP_append a0 (allP_single (allP_end a0) (allP_end a0)), D, hD, execAll_append .. ▸ s⟩

theorem _root_.Dos.IO.Emits.fin_sim {cl : Bool} {e : Nat → List Row → List Act} {nh : Bool} {x0 : XSt} {s0 : St}
    {ks : List Nat} {w : WSt} (he : Ends fl t keep cl e) (i : Idle fl t keep x0 s0) (h : Emits t e nh s0 ks w) :
    AllP (GW fl t keep) x0 (finG e w) ∧ Idle fl t keep (execAll x0 (finG e w)) (removeLoose w.s (gone cl ks)) := by
  obtain ⟨w', h', hop, ha, hs⟩ := h.fin
  obtain ⟨a0, D, hD, s⟩ := h'.sim he i
  rw [hop] at s
  rw [h'.rows_nil hop, List.map_nil, gone_nil, List.append_nil] at hD
  rw [← ha, ← hs, ← hD]
  exact ⟨a0, s⟩

/-! With `do_commit=True` the transaction is closed whenever a session has ended. -/

theorem work_sessionEndO (x : XSt) (q : Nat) (rs : List Row) (trunc df : Bool) (h : x.work = none) :
    (execAll x (sessionEndO q rs trunc df true)).work = none := by
  -- a truncation comes first and does not touch the transaction
  suffices hx : ∀ {x : XSt}, x.work = none → (execAll x (sessionEndO q rs false df true)).work = none by
    cases trunc
    · exact hx h
    · exact hx (x := exec x (.pkTruncate q 0)) h
  intro x h
  rw [sessionEndO_eq, execAll_append, exec_endO]
  cases rs with
  | nil => exact h
  | cons _ _ => rfl

theorem work_sessionEndCleanO (x : XSt) (q : Nat) (rs : List Row) (cl df : Bool) (h : x.work = none) :
    (execAll x (sessionEndCleanO q rs cl df)).work = none := by
  unfold sessionEndCleanO
  rw [execAll_append]
  cases cl
  · exact work_sessionEndO x q rs false df h
  · rw [if_pos rfl, map_unlink_keys, execAll_unlinks]
    exact work_sessionEndO x q rs false df h

theorem _root_.Dos.IO.Emits.work {e : Nat → List Row → List Act} {nh : Bool} {x0 : XSt} {s0 : St} {ks : List Nat} {w : WSt}
    (hc : ∀ x q rs, x.work = none → (execAll x (e q rs)).work = none) (h0 : x0.work = none)
    (h : Emits t e nh s0 ks w) : (execAll x0 (finG e w)).work = none := by
  have hw : ∀ {ks w}, Emits t e nh s0 ks w → (execAll x0 w.acts).work = none := by
    intro ks w h
    induction h with
    | init => exact h0
    | opn _ _ _ ih => rw [execAll_append]; exact (congrArg XSt.work (exec_pkOpen ..)).trans ih
    | same _ _ ih => exact ih
    | ends _ _ ih => rw [execAll_append]; exact hc _ _ _ ih
    | write _ _ _ _ _ ih => rw [execAll_append]; exact ih
    | wtrunc _ _ _ _ ih => rw [execAll_append]; exact ih
    | read _ _ ih => rw [execAll_append]; exact ih
  obtain ⟨w', h', _, ha, _⟩ := h.fin
  exact ha ▸ hw h'

end Dos.IO.Imp
