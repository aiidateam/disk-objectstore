/-
The AUTO heuristic reads a bounded sample whatever the size of the object: at most 128 KiB + 1 KiB in reads of at most
1 KiB, all inside the stream, never moving backwards; small objects are read completely.  (The loop tests the budget before
each read, so what holds without arithmetic on the constants is "overrun by less than one read"; the model file's "128 KiB in
all" needs that 128 KiB is a multiple of the read size.)

The proofs never look at the numbers: `sampleSize`, `maxSampled` and `interval size` stay closed names, `rd_nxt_bounds`
describes one step of the loop in linear terms, and one induction (`loop_spec`) gives all that holds of the loop's output.
The numbers come in twice: `sampleSize ≠ 0` for the empty read (`rd_eq_zero`), and `maxSampled = 128 * sampleSize` for the
130 reads and the small-object case.
-/
import Dos.Sample

namespace Dos.Sample

/-- length of the read at `pos` -/
def rd (size pos : Nat) : Nat := min sampleSize (size - pos)

/-- position after the read at `pos` and the seek that follows it -/
def nxt (size pos : Nat) : Nat :=
  pos + rd size pos + min (size - (pos + rd size pos)) (interval size - rd size pos)

theorem loop_zero (size pos total : Nat) : loop size 0 pos total = [] := rfl

theorem loop_succ (size f pos total : Nat) :
    loop size (f + 1) pos total =
      if total < maxSampled then
        if rd size pos = 0 then [(pos, 0)]
        else (pos, rd size pos) :: loop size f (nxt size pos) (total + rd size pos)
      else [] := rfl

theorem rd_nxt_bounds {size pos : Nat} (hp : pos ≤ size) :
    rd size pos ≤ sampleSize ∧ pos + rd size pos ≤ nxt size pos ∧ nxt size pos ≤ size ∧
    (rd size pos = sampleSize ∨ nxt size pos = size) ∧
    (interval size ≤ sampleSize → nxt size pos = pos + rd size pos) := by
  have hps : pos + rd size pos ≤ size := Nat.add_le_of_le_sub' hp (Nat.min_le_right _ _)
  unfold nxt
  have hseek : pos + rd size pos + min (size - (pos + rd size pos)) (interval size - rd size pos)
      ≤ pos + rd size pos + (size - (pos + rd size pos)) := Nat.add_le_add_left (Nat.min_le_left _ _) _
  refine ⟨Nat.min_le_left _ _, Nat.le_add_right _ _, Nat.le_trans hseek (Nat.le_of_eq (Nat.add_sub_cancel' hps)), ?_⟩
  -- a full read, or the rest of the stream
  rcases Nat.le_total sampleSize (size - pos) with h | h
  · rw [rd, Nat.min_eq_left h]
    exact ⟨.inl rfl, fun hi => by rw [Nat.sub_eq_zero_of_le hi, Nat.min_zero, Nat.add_zero]⟩
  · rw [rd, Nat.min_eq_right h, Nat.add_sub_cancel' hp, Nat.sub_self, Nat.zero_min]
    exact ⟨.inr rfl, fun _ => rfl⟩

theorem rd_eq_zero {size pos : Nat} (hp : pos ≤ size) (h : rd size pos = 0) : pos = size :=
  Nat.le_antisymm hp (Nat.le_of_sub_eq_zero ((Nat.min_eq_zero_iff.1 h).resolve_left (by decide)))

theorem sampled_nil : sampled [] = 0 := rfl

theorem sampled_cons (a : Nat × Nat) (l : List (Nat × Nat)) : sampled (a :: l) = a.2 + sampled l := by
  simp only [sampled, List.map_cons, List.sum_cons]

theorem loop_end (size f pos total : Nat) (h : size ≤ pos) : (loop size f pos total).length ≤ 1 := by
  cases f with
  | zero => exact Nat.zero_le _
  | succ f =>
    have : rd size pos = 0 := by rw [rd, Nat.sub_eq_zero_of_le h, Nat.min_zero]
    rw [loop_succ, if_pos this]; split <;> simp

theorem loop_stable (size f pos total : Nat) (h : (loop size f pos total).length < f) (g : Nat) :
    loop size (f + g) pos total = loop size f pos total := by
  induction f generalizing pos total with
  | zero => exact nomatch h
  | succ f ih =>
    rw [Nat.add_right_comm, loop_succ, loop_succ]
    by_cases ht : total < maxSampled
    · by_cases h0 : rd size pos = 0
      · simp only [if_pos ht, if_pos h0]
      · rw [loop_succ, if_pos ht, if_neg h0] at h
        simp only [if_pos ht, if_neg h0, ih _ _ (Nat.lt_of_succ_lt_succ h)]
    · simp only [if_neg ht]

/-- what holds of the reads `l` issued from position `pos` with `total` bytes sampled before and fuel `f` -/
structure Spec (size f pos total : Nat) (l : List (Nat × Nat)) : Prop where
  within : ∀ r ∈ l, pos ≤ r.1 ∧ r.1 + r.2 ≤ size ∧ r.2 ≤ sampleSize
  forward : l.Pairwise fun a b => a.1 + a.2 ≤ b.1
  inside : pos + sampled l ≤ size
  /-- the budget is overrun by less than one read -/
  budget : total + sampled l ≤ maxSampled + sampleSize
  /-- every read but the last two is a full one -/
  length : total + sampleSize * l.length ≤ maxSampled + 2 * sampleSize
  /-- with fuel left, contiguous reads (no seek) stop only once the budget is used up or at the end of the stream -/
  stop : interval size ≤ sampleSize → l.length < f → maxSampled ≤ total + sampled l ∨ pos + sampled l = size

theorem Spec.nil {size f pos total : Nat} (hp : pos ≤ size) (ht : total ≤ maxSampled + sampleSize)
    (h : 0 < f → maxSampled ≤ total ∨ pos = size) : Spec size f pos total [] where
  within := nofun
  forward := .nil
  inside := hp
  budget := ht
  length := Nat.le_trans ht (Nat.add_le_add_left (Nat.le_mul_of_pos_left _ Nat.two_pos) _)
  stop _ := h

theorem loop_spec (size f pos total : Nat) (hp : pos ≤ size) (ht : total ≤ maxSampled + sampleSize) :
    Spec size f pos total (loop size f pos total) := by
  induction f generalizing pos total with
  | zero => exact .nil hp ht nofun
  | succ f ih =>
    rw [loop_succ]
    split
    next hlt =>
      split
      next h0 =>
        cases rd_eq_zero hp h0
        have hs : sampled [(size, 0)] = 0 := rfl
        constructor
        · intro r hr
          cases List.mem_singleton.1 hr
          exact ⟨Nat.le_refl _, Nat.le_refl _, Nat.zero_le _⟩
        · exact List.pairwise_singleton _ _
        · rw [hs]; exact Nat.le_refl _
        · rw [hs]; exact ht
        · -- one read, and the budget was not yet used up
          rw [List.length_singleton, Nat.mul_one, Nat.two_mul, ← Nat.add_assoc]
          exact Nat.add_le_add_right (Nat.le_trans (Nat.le_of_lt hlt) (Nat.le_add_right _ _)) _
        · -- the read stands at the end of the stream
          exact fun _ _ => .inr (by rw [hs]; rfl)
      next =>
        have ⟨s1, s2, s3, s4, s5⟩ := rd_nxt_bounds hp
        have ⟨w, fw, i, b, n, st⟩ := ih (nxt size pos) (total + rd size pos) s3
          (Nat.add_le_add (Nat.le_of_lt hlt) s1)
        constructor
        · intro r hr
          rcases List.mem_cons.1 hr with rfl | hr
          · exact ⟨Nat.le_refl _, Nat.le_trans s2 s3, s1⟩
          · exact ⟨Nat.le_trans (Nat.le_trans (Nat.le_add_right _ _) s2) (w r hr).1, (w r hr).2⟩
        · exact List.pairwise_cons.2 ⟨fun r hr => Nat.le_trans s2 (w r hr).1, fw⟩
        · rw [sampled_cons, ← Nat.add_assoc]
          exact Nat.le_trans (Nat.add_le_add_right s2 _) i
        · rw [sampled_cons, ← Nat.add_assoc]; exact b
        · rw [List.length_cons, Nat.mul_succ]
          rcases s4 with h | h
          · rw [h] at n ⊢; rwa [Nat.add_assoc, Nat.add_comm sampleSize] at n
          · -- the read reached the end of the stream: at most one (empty) read follows
            have hlen : sampleSize * (loop size f (nxt size pos) (total + rd size pos)).length ≤ sampleSize :=
              Nat.mul_one sampleSize ▸ Nat.mul_le_mul_left sampleSize (loop_end size f _ _ (Nat.le_of_eq h.symm))
            rw [Nat.two_mul]
            exact Nat.add_le_add (Nat.le_of_lt hlt) (Nat.add_le_add_right hlen _)
        · intro hi hf
          rw [sampled_cons, ← Nat.add_assoc, ← Nat.add_assoc, ← s5 hi]
          exact st hi (Nat.lt_of_succ_lt_succ hf)
    next hlt => exact .nil hp ht fun _ => .inl (Nat.le_of_not_lt hlt)

theorem Spec.length_le {size f pos : Nat} {l : List (Nat × Nat)} (s : Spec size f pos 0 l) : l.length ≤ 130 := by
  have := s.length
  simp only [maxSampled, sampleSize] at this
  omega

theorem run_spec (size : Nat) : Spec size 200 0 0 (loop size 200 0 0) :=
  loop_spec size 200 0 0 (Nat.zero_le _) (Nat.zero_le _)

/-- the fuel given in `sampleReads` suffices: more gives the same reads -/
theorem sampleReads_fuel (size f : Nat) (hf : 200 ≤ f) : loop size f 0 0 = loop size 200 0 0 := by
  obtain ⟨g, rfl⟩ := Nat.le.dest hf
  exact loop_stable size 200 0 0 (Nat.lt_of_le_of_lt (run_spec size).length_le (by decide)) g

theorem reads_spec (size : Nat) : Spec size 200 0 0 (sampleReads size) := by
  unfold sampleReads
  split
  · exact .nil (Nat.zero_le _) (Nat.zero_le _) fun _ => .inr (.symm ‹_›)
  · exact run_spec size

theorem sampleReads_within (size : Nat) : ∀ r ∈ sampleReads size, r.1 + r.2 ≤ size ∧ r.2 ≤ sampleSize :=
  fun r hr => ((reads_spec size).within r hr).2

theorem sampleReads_forward (size : Nat) :
    List.Pairwise (fun a b => a.1 + a.2 ≤ b.1) (sampleReads size) :=
  (reads_spec size).forward

theorem sampleReads_bounded (size : Nat) :
    sampled (sampleReads size) ≤ maxSampled + sampleSize ∧ sampled (sampleReads size) ≤ size ∧
    (sampleReads size).length ≤ 130 :=
  have s := reads_spec size
  ⟨Nat.le_trans (Nat.le_add_left _ _) s.budget, Nat.le_trans (Nat.le_add_left _ _) s.inside,
    s.length_le⟩

theorem sampleReads_small (size : Nat) (h : size ≤ maxSampled) : sampled (sampleReads size) = size := by
  have s := reads_spec size
  have hi := s.inside
  rw [Nat.zero_add] at hi
  rcases s.stop (Nat.div_le_of_le_mul (Nat.le_trans h (by decide))) (Nat.lt_of_le_of_lt s.length_le (by decide))
    with h' | h' <;> rw [Nat.zero_add] at h'
  · exact Nat.le_antisymm hi (Nat.le_trans h h')
  · exact h'

end Dos.Sample
