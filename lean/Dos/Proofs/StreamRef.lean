/-
What the stream proofs share: the algebra of `slice`, `Piece`, the reference `Ref`.
-/
import Dos.StreamSpec

namespace Dos.Stream

theorem slice_length (d : Bytes) (p n : Nat) : (slice d p n).length = min n (d.length - p) := by
  rw [slice, List.length_take, List.length_drop]

theorem slice_length_le {d : Bytes} {p : Nat} (h : p ≤ d.length) (n : Nat) :
    (slice d p n).length ≤ n ∧ p + (slice d p n).length ≤ d.length ∧
      ((slice d p n).length < n → p + (slice d p n).length = d.length) := by
  rw [slice_length]
  refine ⟨Nat.min_le_left .., Nat.add_le_of_le_sub' h (Nat.min_le_right ..), fun hlt => ?_⟩
  rcases Nat.le_total n (d.length - p) with hn | hn
  · exact absurd (Nat.min_eq_left hn ▸ hlt) (Nat.lt_irrefl _)
  · rw [Nat.min_eq_right hn, Nat.add_sub_cancel' h]

theorem slice_nil_end {d : Bytes} {p n : Nat} (h : p ≤ d.length) (hn : 0 < n) (h0 : (slice d p n).length = 0) :
    p = d.length := by
  have := (slice_length_le h n).2.2 (h0 ▸ hn)
  rwa [h0] at this

theorem slice_add (d : Bytes) (p n m : Nat) : slice d p n ++ slice d (p + n) m = slice d p (n + m) := by
  simp only [slice, List.take_add, ← List.drop_drop]

theorem drop_slice (d : Bytes) (p n k : Nat) : (slice d p n).drop k = slice d (p + k) (n - k) := by
  simp only [slice, List.drop_take, List.drop_drop]

theorem take_slice (d : Bytes) (p n k : Nat) : (slice d p n).take k = slice d p (min k n) := by
  simp only [slice, List.take_take]

theorem slice_all (d : Bytes) (p n : Nat) (h : d.length ≤ p + n) : slice d p n = d.drop p :=
  List.take_of_length_le (by rw [List.length_drop]; exact Nat.sub_le_iff_le_add'.2 h)

theorem slice_min (d : Bytes) (p n : Nat) : slice d p (min (d.length - p) n) = slice d p n := by
  rw [slice, Nat.min_comm, ← List.length_drop, ← List.take_take, List.take_length, slice]

theorem slice_append_drop (d : Bytes) (p n : Nat) :
    slice d p n ++ d.drop (p + (slice d p n).length) = d.drop p := by
  rw [← List.drop_drop]; exact List.prefix_iff_eq_append.1 (List.take_prefix n _)

theorem slice_window {pre obj post : Bytes} {p k : Nat} (h : p + k ≤ obj.length) :
    slice (pre ++ obj ++ post) (pre.length + p) k = slice obj p k := by
  rw [slice, List.append_assoc, List.drop_length_add_append,
    List.drop_append_of_le_length (Nat.le_trans (Nat.le_add_right p k) h),
    List.take_append_of_le_length (by rw [List.length_drop]; exact Nat.le_sub_of_add_le' h), slice]

/-- `x` is the piece of `d` that starts at `p` (the form in which `Decoder.Valid` speaks of input and output) -/
def Piece (d : Bytes) (p : Nat) (x : Bytes) : Prop := x = slice d p x.length

namespace Piece
variable {d x y : Bytes} {p : Nat}

theorem iff_prefix : Piece d p x ↔ x <+: d.drop p := List.prefix_iff_eq_take.symm

theorem nil : Piece d p [] := rfl

theorem of_slice (n : Nat) : Piece d p (slice d p n) := iff_prefix.2 (List.take_prefix n _)

theorem append_iff : Piece d p (x ++ y) ↔ Piece d p x ∧ Piece d (p + x.length) y := by
  rw [iff_prefix, iff_prefix, iff_prefix, ← List.drop_drop]
  generalize d.drop p = D
  constructor
  · rintro ⟨r, rfl⟩
    exact ⟨⟨y ++ r, (List.append_assoc ..).symm⟩, r, by rw [List.append_assoc, List.drop_left]⟩
  · rintro ⟨⟨r, rfl⟩, h⟩
    rw [List.drop_left] at h
    exact (List.prefix_append_right_inj x).2 h

theorem append (hx : Piece d p x) (hy : Piece d (p + x.length) y) : Piece d p (x ++ y) := append_iff.2 ⟨hx, hy⟩

theorem drop (hx : Piece d p x) (k : Nat) : Piece d (p + (x.take k).length) (x.drop k) :=
  (append_iff.1 ((List.take_append_drop k x).symm ▸ hx)).2

theorem take_eq (hx : Piece d p x) (n : Nat) (h : n ≤ x.length ∨ p + x.length = d.length) :
    x.take n = slice d p n := by
  rcases h with h | h
  · rw [hx, take_slice, Nat.min_eq_left h]
  · rw [hx, slice_all d p _ (Nat.le_of_eq h.symm), slice]

end Piece

/-- `Decoder.Valid.feed_R` in the form the fill loop wants: all as `Piece`s, the tail's length by an equation without
    subtraction -/
theorem Decoder.Valid.feed_piece {σ : Type} {dc : Decoder σ} {e b : Bytes} (V : dc.Valid e b) {s : σ} {c q : Nat}
    (hR : V.R s c q) {inp : Bytes} (hinp : Piece e c inp) {max : Nat} (hmax : 0 < max) {d' : σ} {out : Bytes}
    (hfd : dc.feed s inp max = (d', out)) :
    ∃ c', V.R d' c' (q + out.length) ∧ Piece b q out ∧ Piece e c' (dc.tail d') ∧
      c' + (dc.tail d').length = c + inp.length ∧ (out.length < max → dc.tail d' = []) ∧
      (c' = e.length → dc.eof d' = true ∧ q + out.length = b.length) := by
  obtain ⟨c', hR', hout, _, hcc, hcc', htail, hfull, heof, hend⟩ := hfd ▸ V.feed_R s c q inp max hR hmax hinp
  obtain ⟨k, rfl⟩ := Nat.le.dest hcc
  rw [Nat.add_sub_cancel_left] at htail
  have hk : k ≤ inp.length := Nat.le_of_add_le_add_left hcc'
  have hd := hinp.drop k
  rw [← htail, List.length_take, Nat.min_eq_left hk] at hd
  refine ⟨c + k, hR', hout, hd, ?_, fun h => ?_, fun h => ⟨heof.2 h, hend h⟩⟩
  · rw [htail, List.length_drop, Nat.add_assoc, Nat.add_sub_cancel' hk]
  · rw [htail, Nat.add_left_cancel (hfull h), List.drop_length]

theorem inRange_seek_iff (len pos : Nat) (t : Int) (w : Nat) :
    (Cmd.seek t w).inRange len pos = true ↔
      w ≤ 2 ∧ 0 ≤ seekTarget len pos t w ∧ seekTarget len pos t w ≤ (len : Int) := by
  simp only [Cmd.inRange, Bool.and_eq_true, decide_eq_true_eq, and_assoc, Int.ofNat_eq_natCast]

theorem ref_seek (r : Ref) (t : Int) (w : Nat) :
    r.step (.seek t w) =
      if w ≤ 2 ∧ (w = 0 → 0 ≤ t) then
        (⟨r.data, (seekTarget r.data.length r.pos t w).toNat⟩, .pos ((seekTarget r.data.length r.pos t w).toNat : Nat))
      else (r, .err .value) := by
  rw [Ref.step]; unfold seekTarget
  match w with
  | 0 =>
    by_cases ht : t < 0
    · rw [if_pos rfl, if_pos ht, if_neg (fun h => absurd (h.2 rfl) (Int.not_le.2 ht))]
    · rw [if_pos rfl, if_neg ht, if_pos ⟨by decide, fun _ => Int.not_lt.1 ht⟩, if_neg (by decide), if_neg (by decide),
        Int.toNat_of_nonneg (Int.not_lt.1 ht)]
  | 1 => rfl
  | 2 => rfl
  | w + 3 => rw [if_neg nofun, if_neg nofun, if_neg nofun, if_neg fun h => Nat.not_le.2 (Nat.le_add_left 3 w) h.1]

theorem ref_seek_in (r : Ref) (t : Int) (w : Nat) (hr : (Cmd.seek t w).inRange r.data.length r.pos = true) :
    r.step (.seek t w) =
      (⟨r.data, (seekTarget r.data.length r.pos t w).toNat⟩, .pos (seekTarget r.data.length r.pos t w)) := by
  obtain ⟨hw, h0, _⟩ := (inRange_seek_iff _ _ t w).1 hr
  rw [ref_seek, if_pos ⟨hw, fun h => by subst h; exact h0⟩, Int.toNat_of_nonneg h0]

theorem ref_read_nat (r : Ref) (k : Nat) :
    r.step (.read (Int.ofNat k)) = (⟨r.data, r.pos + (slice r.data r.pos k).length⟩, .data (slice r.data r.pos k)) := by
  rw [Ref.step, if_neg (show ¬ Int.ofNat k < 0 from Int.not_lt.2 (Int.natCast_nonneg k))]; rfl

theorem ref_step_data (r : Ref) (c : Cmd) : (r.step c).1.data = r.data := by
  cases c with
  | read n => rfl
  | tell => rfl
  | seek t w => rw [ref_seek]; split <;> rfl

theorem ref_step_eta (d : Bytes) (p : Nat) (c : Cmd) : (Ref.step ⟨d, p⟩ c).1 = ⟨d, (Ref.step ⟨d, p⟩ c).1.pos⟩ :=
  congrArg (Ref.mk · _) (ref_step_data ⟨d, p⟩ c)

/-- what a stream over `b` may answer -/
def OutOk (b : Bytes) (o : Out) : Prop := (∀ out, o = .data out → ∃ q k, out = slice b q k) ∧ (∀ n, o = .pos n → 0 ≤ n)

theorem OutOk.err (b : Bytes) (e : Err) : OutOk b (.err e) := ⟨nofun, nofun⟩
theorem OutOk.pos (b : Bytes) (n : Nat) : OutOk b (.pos n) :=
  ⟨nofun, fun _ h => Out.pos.inj h ▸ Int.natCast_nonneg n⟩
theorem OutOk.data (b : Bytes) (q k : Nat) : OutOk b (.data (slice b q k)) :=
  ⟨fun _ h => ⟨q, k, (Out.data.inj h).symm⟩, nofun⟩

theorem ref_out_ok (r : Ref) (c : Cmd) : OutOk r.data (r.step c).2 := by
  cases c with
  | read n => exact .data ..
  | tell => exact .pos ..
  | seek t w =>
    rw [ref_seek]
    split
    · exact .pos ..
    · exact .err ..

theorem stepGuarded_data (r : Ref) (c : Cmd) : (r.stepGuarded c).1.data = r.data := by
  unfold Ref.stepGuarded; split
  · exact ref_step_data r c
  · rfl

theorem stepGuarded_out_ok (r : Ref) (c : Cmd) : OutOk r.data (r.stepGuarded c).2 := by
  unfold Ref.stepGuarded; split
  · exact ref_out_ok r c
  · exact .err ..

theorem stepGuarded_eta (r : Ref) (c : Cmd) : (r.stepGuarded c).1 = ⟨r.data, (r.stepGuarded c).1.pos⟩ := by
  rw [← stepGuarded_data r c]

theorem stepGuarded_pos_le (r : Ref) (h : r.pos ≤ r.data.length) (c : Cmd) :
    (r.stepGuarded c).1.pos ≤ r.data.length := by
  unfold Ref.stepGuarded; split
  · next hr =>
    cases c with
    | read n => exact (slice_length_le h _).2.1
    | tell => exact h
    | seek t w =>
      rw [ref_seek_in r t w hr]
      exact Int.toNat_le.2 ((inRange_seek_iff ..).1 hr).2.2
  · exact h

theorem runRefGuarded_ok (r : Ref) (prog : List Cmd) : ∀ o ∈ runRefGuarded r prog, OutOk r.data o := by
  induction prog generalizing r with
  | nil => exact nofun
  | cons c cs ih =>
    exact List.forall_mem_cons.2 ⟨stepGuarded_out_ok r c, fun o ho => stepGuarded_data r c ▸ ih _ o ho⟩

theorem runRefGuarded_inRange (r : Ref) (prog : List Cmd) (h : inRangeProg r prog = true) :
    runRefGuarded r prog = runRef r prog := by
  induction prog generalizing r with
  | nil => rfl
  | cons c cs ih =>
    obtain ⟨h1, h2⟩ := Bool.and_eq_true_iff.1 h
    have hg : r.stepGuarded c = r.step c := if_pos h1
    show (r.stepGuarded c).2 :: runRefGuarded (r.stepGuarded c).1 cs = (r.step c).2 :: runRef (r.step c).1 cs
    rw [hg, ih _ h2]

end Dos.Stream
