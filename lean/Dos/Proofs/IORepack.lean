/-
`repack_pack`: copy to the temporary pack, commit, unlink the old pack, link back, commit, unlink.  From the first commit on the
store is, between any two actions, a quiescent `ofSt b` (an open transaction apart): `b` is the start with the rows of pack `p`
moved to pack `q` (first the temporary pack, after the second commit `p` again) and with pack files in which `q` holds the
rebuilt layout.  `inv_moved` (Level B) gives `Inv` for each such `b`, whatever the order of the pack files.
-/
import Dos.Proofs.InvRepack
import Dos.Proofs.IORepackAux

namespace Dos.IO

def NoTmp (s : St) : Prop := (∀ e ∈ s.packs, e.1 ≠ tmpId) ∧ (∀ r ∈ s.rows, r.pack ≠ tmpId)

namespace Repack

theorem tmp_not_mem {s : St} (nt : NoTmp s) : tmpId ∉ s.packs.map (·.1) := fun h => by
  obtain ⟨e, he, h⟩ := List.mem_map.mp h
  exact nt.1 e he h

/-- unlink `p`, link the file written under the fresh name `q` to `p`, unlink `q`: the new `p` is the last entry -/
theorem relink_packs {ps : Packs} {p q : Nat} (g : List Seg) (hq : q ∉ ps.map (·.1)) (hpq : p ≠ q) :
    erasePack (setPack (erasePack (setPack ps q g) p) p g) q = erasePack ps p ++ [(p, g)] := by
  induction ps with
  | nil => simp [setPack, erasePack, hpq, Ne.symm hpq]
  | cons e rest ih =>
    obtain ⟨r, o⟩ := e
    simp only [List.map_cons, List.mem_cons, not_or] at hq
    have hr : ¬ r = q := fun h => hq.1 h.symm
    by_cases hp : r = p
    · subst hp; simpa [setPack, erasePack, hr] using ih hq.2
    · simpa [setPack, erasePack, hr, hp] using ih hq.2

theorem perm_erase_set {ps : Packs} (nd : (ps.map (·.1)).Nodup) {p : Nat} (hm : p ∈ ps.map (·.1)) (v : List Seg) :
    (erasePack ps p ++ [(p, v)]).Perm (setPack ps p v) := by
  induction ps with
  | nil => cases hm
  | cons e rest ih =>
    obtain ⟨q, o⟩ := e
    simp only [List.map_cons, List.nodup_cons] at nd
    by_cases hq : q = p
    · subst hq
      have : erasePack rest q = rest := erasePack_of_getPack_none (getPack_eq_none_iff.mpr nd.1)
      simp only [erasePack, setPack, if_true, this]
      exact List.perm_append_singleton _ _
    · have hm' : p ∈ rest.map (·.1) := by
        simp only [List.map_cons, List.mem_cons] at hm
        exact hm.resolve_left (fun h => hq h.symm)
      simp only [erasePack, setPack, hq, if_false, List.cons_append]
      exact (ih nd.2 hm').cons _

theorem relink_last {a : Packs} {p : Nat} (v g : List Seg) (h : p ∉ a.map (·.1)) :
    erasePack (a ++ [(p, v)]) p ++ [(p, g)] = setPack (a ++ [(p, v)]) p g := by
  induction a with
  | nil => simp [erasePack, setPack]
  | cons e rest ih =>
    simp only [List.map_cons, List.mem_cons, not_or] at h
    have hq : ¬ e.1 = p := fun h' => h.1 h'.symm
    simp [erasePack, setPack, hq, ih h.2]

/-- While pack `p` is replaced through the name `tmp`, the pack files `P` have the new file `g` under the name `q`
    and, off `p` and `tmp`, the files of `ps`. -/
structure Relink (ps : Packs) (p tmp : Nat) (g : List Seg) (q : Nat) (P : Packs) : Prop where
  nodup : (P.map (·.1)).Nodup
  new : getPack P q = some g
  old : ∀ q', q' ≠ p → q' ≠ tmp → getPack P q' = getPack ps q'

theorem Relink.start {ps : Packs} (nd : (ps.map (·.1)).Nodup) (p tmp : Nat) (g : List Seg) :
    Relink ps p tmp g tmp (setPack ps tmp g) :=
  ⟨nodup_keys_setPack _ _ nd, getPack_setPack_eq, fun _ _ h => getPack_setPack_ne h⟩

theorem Relink.unlink {ps P : Packs} {p tmp q : Nat} {g : List Seg} (h : Relink ps p tmp g q P) {r : Nat}
    (hr : r = p ∨ r = tmp) (hq : q ≠ r) : Relink ps p tmp g q (erasePack P r) :=
  ⟨h.nodup.sublist (keys_erasePack_sublist _ _), by rw [getPack_erasePack_ne hq, h.new], fun q' h1 h2 => by
    rw [getPack_erasePack_ne (by rcases hr with rfl | rfl <;> assumption), h.old q' h1 h2]⟩

/-- The link makes `r` a second name of the new file.  Until the index is repointed the rows name the file as `q`, from
    then on as `r`: both facts are needed. -/
theorem Relink.link {ps P : Packs} {p tmp q : Nat} {g : List Seg} (h : Relink ps p tmp g q P) {r : Nat}
    (hr : r = p ∨ r = tmp) : Relink ps p tmp g q (setPack P r g) ∧ Relink ps p tmp g r (setPack P r g) := by
  have old : ∀ q', q' ≠ p → q' ≠ tmp → getPack (setPack P r g) q' = getPack ps q' := fun q' h1 h2 => by
    rw [getPack_setPack_ne (by rcases hr with rfl | rfl <;> assumption), h.old q' h1 h2]
  refine ⟨⟨nodup_keys_setPack _ _ h.nodup, ?_, old⟩, nodup_keys_setPack _ _ h.nodup, getPack_setPack_eq, old⟩
  rw [getPack_setPack]
  split
  · rfl
  · exact h.new

def setPk (q : Nat) (r : Row) : Row := { r with pack := q }

theorem rebuild_fst_pack (t : Tab) (q q' : Nat) (rs : List Row) (zs : List Bool) (off : Nat) :
    (rebuild t q rs zs off).1 = (rebuild t q' rs zs off).1 := by
  induction rs generalizing zs off with
  | nil => rfl
  | cons r rs ih => simp only [rebuild_cons]; rw [ih]

theorem rebuild_snd_pack (t : Tab) (q q' : Nat) (rs : List Row) (zs : List Bool) (off : Nat) :
    (rebuild t q rs zs off).2 = (rebuild t q' rs zs off).2.map (setPk q) := by
  induction rs generalizing zs off with
  | nil => rfl
  | cons r rs ih => simp only [rebuild_cons, List.map_cons]; rw [ih]; rfl

/-- what `sqlMove r` does to a row `o` of the working copy -/
def mvRow (o r : Row) : Row := if o.key = r.key then { r with id := o.id } else o
def mvStep (W : List Row) (r : Row) : List Row := W.map (fun o => mvRow o r)

theorem foldl_mvStep (l : List Row) (W : List Row) : l.foldl mvStep W = W.map (fun o => l.foldl mvRow o) := by
  induction l generalizing W with
  | nil => simp
  | cons r l ih => simp only [List.foldl_cons, ih, mvStep, List.map_map]; rfl

theorem foldl_mvRow {l : List Row} (nd : (l.map (·.key)).Nodup) (o : Row) :
    l.foldl mvRow o = match findRow l o.key with
      | some r => { r with id := o.id }
      | none => o := by
  induction l generalizing o with
  | nil => rfl
  | cons a l ih =>
    simp only [List.map_cons, List.nodup_cons] at nd
    rw [List.foldl_cons, ih nd.2]
    by_cases h : o.key = a.key
    · have hn : l.find? (fun r => r.key == a.key) = none := findRow_none_iff.mpr nd.1
      simp [mvRow, h, hn, findRow]
    · have h' : ¬ a.key = o.key := fun e => h e.symm
      simp [mvRow, findRow, h, h']

theorem moves_rows {t : Tab} {s : St} (inv : Inv t s) (p q : Nat) (zs : List Bool) :
    (rebuilt t s p q zs).foldl mvStep s.rows = movedRows t s p q zs := by
  rw [foldl_mvStep]
  apply List.map_congr_left
  intro o ho
  rw [foldl_mvRow (by rw [rebuild_keys]; exact srt_map_nodup inv.keys_nodup p)]
  by_cases hp : o.pack = p
  · rw [findRow_rebuilt t p q zs ho hp, ← repackRow_id inv p q zs ho]
  · -- a rebuilt row with the key of `o` would come from a row of pack `p` with that key, and that row would be `o`
    have hf : findRow (rebuilt t s p q zs) o.key = none := by
      rw [findRow_none_iff, rebuild_keys]
      intro hk
      obtain ⟨r0, hr0, h1⟩ := List.mem_map.mp hk
      obtain ⟨hr0', hr0p⟩ := mem_rowsOfPack.mp (mem_sortByOff.mp hr0)
      exact hp (eq_of_map_nodup inv.keys_nodup hr0' ho h1 ▸ hr0p)
    rw [hf, repackRow_of_ne _ hp]

/-- `sqlRepoint tmpId p` after the first commit gives the index Level B computes -/
theorem repoint_rows {t : Tab} {s : St} (inv : Inv t s) (p : Nat) (zs : List Bool)
    (hT : ∀ r ∈ s.rows, r.pack ≠ tmpId) :
    (movedRows t s p tmpId zs).map (fun o => if o.pack = tmpId then { o with pack := p } else o) = movedRows t s p p zs := by
  rw [List.map_map]
  apply List.map_congr_left
  intro o ho
  by_cases hp : o.pack = p
  · -- the copy in the temporary pack is the copy `r'` in pack `p` but for the name of its pack
    have hf := findRow_rebuilt t p p zs ho hp
    have hpk := (repackRow_copy inv p p zs ho hp).pack
    generalize repackRow p (rebuilt t s p p zs) o = r' at hf hpk ⊢
    have hf' : findRow (rebuilt t s p tmpId zs) o.key = some (setPk tmpId r') := by
      rw [rebuilt, rebuild_snd_pack t tmpId p, findRow, List.find?_map]
      exact congrArg (Option.map (setPk tmpId)) hf
    simp only [Function.comp, repackRow, hp, beq_self_eq_true, if_true, hf', Option.getD_some, setPk]
    subst hpk
    rfl
  · rw [Function.comp, repackRow_of_ne _ hp, repackRow_of_ne _ hp]
    exact if_neg (hT o ho)

theorem acts_nil {t : Tab} {s : St} {p : Nat} {zs : List Bool} (h : rowsOfPack s.rows p = []) :
    actsRepackPack t s p zs = if (getPack s.packs p).isSome then [.pkUnlink p] else [] := by
  unfold actsRepackPack
  simp [h, sortByOff]

theorem acts_cons {t : Tab} {s : St} {p : Nat} {zs : List Bool} (h : rowsOfPack s.rows p ≠ []) :
    actsRepackPack t s p zs =
      [.lock tmpId, .pkOpen tmpId, .pkRead p] ++ (rebuild t tmpId (srt s p) zs 0).1.map (fun g => Act.pkWrite tmpId g) ++
        [.pkFlush tmpId, .pkFsync tmpId, .dirSync, .pkClose tmpId, .unlock tmpId] ++
        (rebuild t tmpId (srt s p) zs 0).2.map .sqlMove ++
        [.sqlCommit, .pkUnlink p, .pkLink tmpId p, .sqlRepoint tmpId p, .sqlCommit, .pkUnlink tmpId] := by
  unfold actsRepackPack
  simp only
  split
  · next h0 => exact absurd ((sortByOff_perm _).symm.trans (h0 ▸ List.Perm.refl _)).eq_nil h
  · rfl

theorem gw_moved {t : Tab} {s : St} (inv : Inv t s) (hT : ∀ r ∈ s.rows, r.pack ≠ tmpId) {p q : Nat} {zs : List Bool}
    (hq : q = tmpId ∨ q = p) {P : Packs} (h : Relink s.packs p tmpId (rebuild t tmpId (srt s p) zs 0).1 q P)
    (W : Option (List Row)) :
    Imp.GW false t (keysOf s) { ofSt { s with packs := P, rows := movedRows t s p q zs } with work := W } := by
  have hne : ∀ r ∈ s.rows, r.pack ≠ p → r.pack ≠ q := fun r hr hp => by
    rcases hq with rfl | rfl
    · exact hT r hr
    · exact hp
  have inv' := inv_moved inv p q zs hne h.nodup (by rw [h.new, rebuild_fst_pack])
    (fun r hr hp => h.old _ hp (hT r hr))
  have g := Imp.gw_ofSt (fl := false) inv'
  have k : keysOf { s with packs := P, rows := movedRows t s p q zs } = keysOf s := by
    simp only [keysOf, rowKeys, looseKeys, movedRows_keys t s p q zs]
  rw [k] at g
  exact ⟨g.com, g.sb, g.tgt⟩

theorem exec_moves_commit (b : St) (l : List Row) :
    exec (execAll (ofSt b) (l.map .sqlMove)) .sqlCommit = ofSt { b with rows := l.foldl mvStep b.rows } := by
  have h : ∀ W, execAll (st b [] (ofSt b).packs b.rows W) (l.map .sqlMove ++ [.sqlCommit]) =
      st b [] (ofSt b).packs (l.foldl mvStep (W.getD b.rows)) none := by
    induction l with
    | nil => intro W; rfl
    | cons r l ih => intro W; exact ih (some (mvStep (W.getD b.rows) r))
  exact (execAll_append _ _ [.sqlCommit]).symm.trans (h none)

theorem path_cons {t : Tab} {s : St} (inv : Inv t s) (nt : NoTmp s) (p : Nat) (hp : p ≠ tmpId) (zs : List Bool)
    (hne : rowsOfPack s.rows p ≠ []) :
    GoodPath t (keysOf s) (ofSt s) (actsRepackPack t s p zs)
      (ofSt { s with packs := erasePack s.packs p ++ [(p, (rebuild t p (srt s p) zs 0).1)],
                     rows := movedRows t s p p zs }) := by
  rw [acts_cons hne, rebuild_fst_pack t p tmpId, ← relink_packs (q := tmpId) _ (tmp_not_mem nt) hp]
  have rCopy := Relink.start inv.packs_nodup p tmpId (rebuild t tmpId (srt s p) zs 0).1
  have rUnlink := rCopy.unlink (.inl rfl) (Ne.symm hp)
  have rLink := rUnlink.link (.inl rfl)
  have rLast := rLink.2.unlink (.inr rfl) hp
  have c := path_newPack (Imp.gw_ofSt inv) (getPack_eq_none_iff.mpr (tmp_not_mem nt)) p (rebuild t tmpId (srt s p) zs 0).1
  have m := GoodPath.steps c.end (as := (rebuilt t s p tmpId zs).map .sqlMove)
    (List.all_eq_true.mp (all_map_of (fun _ => rfl) _)) rfl
  refine (c.append m).append (.cons m.end ?_)
  rw [exec_moves_commit]
  show GoodPath _ _ (ofSt { s with packs := _, rows := List.foldl mvStep s.rows _ }) _ _
  rw [moves_rows inv]
  -- from here on the states are quiescent
  refine .cons (gw_moved inv nt.2 (.inl rfl) rCopy none) ?_
  rw [exec_pkUnlink]
  refine .cons (gw_moved inv nt.2 (.inl rfl) rUnlink none) ?_
  rw [exec_pkLink rUnlink.new]
  refine .cons (gw_moved inv nt.2 (.inl rfl) rLink.1 none) (.cons (gw_moved inv nt.2 (.inl rfl) rLink.1 _) ?_)
  show GoodPath _ _ (ofSt { s with packs := _, rows := List.map _ (movedRows t s p tmpId zs) }) _ _
  rw [repoint_rows inv p zs nt.2]
  refine .cons (gw_moved inv nt.2 (.inr rfl) rLink.2 none) ?_
  rw [exec_pkUnlink]
  exact .nil (gw_moved inv nt.2 (.inr rfl) rLast none)

theorem path_nil {t : Tab} {s : St} (inv : Inv t s) (p : Nat) (zs : List Bool) (he : rowsOfPack s.rows p = []) :
    GoodPath t (keysOf s) (ofSt s) (actsRepackPack t s p zs) (ofSt { s with packs := erasePack s.packs p }) := by
  have g1 : Imp.GW false t (keysOf s) (ofSt { s with packs := erasePack s.packs p }) := Imp.gw_ofSt (inv_erased inv p he)
  rw [acts_nil he]
  split
  · exact .cons (Imp.gw_ofSt inv) (by rw [exec_pkUnlink]; exact .nil g1)
  · next h =>
    rw [erasePack_of_getPack_none (Option.not_isSome_iff_eq_none.mp h)] at g1 ⊢
    exact .nil g1

theorem path_repackPack {t : Tab} {s : St} (inv : Inv t s) (nt : NoTmp s) (p : Nat) (hp : p ≠ tmpId) (zs : List Bool) :
    ∃ s1, GoodPath t (keysOf s) (ofSt s) (actsRepackPack t s p zs) (ofSt s1) ∧ NoTmp s1 ∧ keysOf s1 = keysOf s := by
  have hk : ∀ e ∈ erasePack s.packs p, e.1 ≠ tmpId := fun e he h =>
    tmp_not_mem nt ((keys_erasePack_sublist _ _).subset (List.mem_map.mpr ⟨e, he, h⟩))
  by_cases he : rowsOfPack s.rows p = []
  · exact ⟨_, path_nil inv p zs he, ⟨hk, nt.2⟩, rfl⟩
  · refine ⟨_, path_cons inv nt p hp zs he, ⟨?_, ?_⟩, ?_⟩
    · intro e he'
      rcases List.mem_append.mp he' with h | h
      · exact hk e h
      · rw [List.mem_singleton.mp h]; exact hp
    · intro r' hr'
      obtain ⟨r, hr, rfl⟩ := List.mem_map.mp hr'
      rw [repackRow_pack inv p zs hr]
      exact nt.2 r hr
    · simp only [keysOf, rowKeys, looseKeys, movedRows_keys t s p p zs]

/-! `SameDisk` fails: the relinked pack is last in the list of pack files -/

namespace Cx
def tb : Tab := { size := fun c => c + 1, zlen := fun c => c + 1 }
def r1 : Row := { id := 1, key := 1, pack := 0, off := 0, len := 2, z := false, size := 2 }
def r2 : Row := { id := 2, key := 2, pack := 1, off := 0, len := 3, z := false, size := 3 }
def s0 : St := St.mk [] [(0, [Seg.mk 1 false]), (1, [Seg.mk 2 false])] [r1, r2] 0 100

theorem repack_s0 : repackPack tb s0 .keep 0 [1] [false] = some s0 := by rfl

theorem noTmp_s0 : NoTmp s0 := ⟨by decide, by decide⟩

theorem inv_s0 : Inv tb s0 := by
  refine ⟨?_, by decide, by decide, by decide, by decide, by decide, by decide, by decide⟩
  intro r hr
  simp only [s0, List.mem_cons, List.not_mem_nil, or_false] at hr
  rcases hr with rfl | rfl
  · exact ⟨[Seg.mk 1 false], [], [], rfl, rfl, rfl, rfl, rfl⟩
  · exact ⟨[Seg.mk 2 false], [], [], rfl, rfl, rfl, rfl, rfl⟩

theorem packs_s0 : (toSt (execAll (ofSt s0) (actsRepackPack tb s0 0 [false]))).packs =
    [(1, [Seg.mk 2 false]), (0, [Seg.mk 1 false])] := by decide

theorem not_sameDisk : ¬ SameDisk (toSt (execAll (ofSt s0) (actsRepackPack tb s0 0 [false]))) s0 :=
  fun h => absurd (packs_s0.symm.trans h.1) (by decide)
end Cx

end Repack

theorem done_repackPack_listorder_differs :
    ¬ (∀ {t : Tab} {s s' : St} (_ : Inv t s) (_ : NoTmp s) {m : Mode} {p : Nat} {order : List Nat}
        {zs : List Bool} (_ : p ≠ tmpId) (_ : repackPack t s m p order zs = some s'),
        SameDisk (toSt (execAll (ofSt s) (actsRepackPack t s p zs))) s') :=
  fun h => Repack.Cx.not_sameDisk (h Repack.Cx.inv_s0 Repack.Cx.noTmp_s0 (by decide) Repack.Cx.repack_s0)

/-- `SameDisk` up to the order of the pack files, whose list stands for a set: Level B (`repackPack`) replaces pack `p` in
    place (`setPack`), the action list unlinks it and links the temporary pack back under its name. -/
def SameFiles (a b : St) : Prop :=
  a.packs.Perm b.packs ∧ (∀ q, getPack a.packs q = getPack b.packs q) ∧ a.rows = b.rows ∧
    (∀ e, e ∈ a.loose ↔ e ∈ b.loose) ∧ a.target = b.target

open Repack in
theorem done_repackPack {t : Tab} {s s' : St} (inv : Inv t s) (nt : NoTmp s) {m : Mode} {p : Nat}
    {order : List Nat} {zs : List Bool} (hp : p ≠ tmpId) (h : repackPack t s m p order zs = some s') :
    SameFiles (toSt (execAll (ofSt s) (actsRepackPack t s p zs))) s' := by
  rcases repackPack_eq_some.mp h with ⟨he, _, rfl⟩ | ⟨hne, _, _, _, rfl⟩
  · rw [(path_nil inv p zs he).2, toSt_ofSt]
    exact ⟨List.Perm.refl _, fun _ => rfl, rfl, fun _ => Iff.rfl, rfl⟩
  · rw [(path_cons inv nt p hp zs hne).2, toSt_ofSt]
    have hm : p ∈ s.packs.map (·.1) := by
      obtain ⟨r, hr⟩ := List.exists_mem_of_ne_nil _ hne
      obtain ⟨hr1, hr2⟩ := mem_rowsOfPack.mp hr
      obtain ⟨segs, hg, _⟩ := rowOK_iff.mp (inv.rows_ok r hr1)
      exact mem_keys_of_getPack (hr2 ▸ hg)
    refine ⟨perm_erase_set inv.packs_nodup hm _, fun q => ?_, rfl, fun _ => Iff.rfl, rfl⟩
    show getPack (erasePack s.packs p ++ _) q = getPack (setPack s.packs p _) q
    rw [getPack_append, getPack_erasePack, getPack_setPack]
    by_cases hq : q = p
    · simp [hq, getPack]
    · simp [hq, getPack, Ne.symm hq]

open Repack in
theorem done_repackPack_last {t : Tab} {s s' : St} (inv : Inv t s) (nt : NoTmp s) {m : Mode} {p : Nat}
    {order : List Nat} {zs : List Bool} (hp : p ≠ tmpId) (h : repackPack t s m p order zs = some s')
    (hlast : rowsOfPack s.rows p = [] ∨ ∃ a v, s.packs = a ++ [(p, v)]) :
    SameDisk (toSt (execAll (ofSt s) (actsRepackPack t s p zs))) s' := by
  rcases repackPack_eq_some.mp h with ⟨he, _, rfl⟩ | ⟨hne, _, _, _, rfl⟩
  · rw [(path_nil inv p zs he).2, toSt_ofSt]
    exact ⟨rfl, rfl, fun _ => Iff.rfl, rfl⟩
  · rw [(path_cons inv nt p hp zs hne).2, toSt_ofSt]
    obtain ⟨a, v, hl⟩ := hlast.resolve_left hne
    refine ⟨?_, rfl, fun _ => Iff.rfl, rfl⟩
    show erasePack s.packs p ++ _ = setPack s.packs p _
    have nd := inv.packs_nodup
    rw [hl] at nd ⊢
    apply relink_last
    simp only [List.map_append, List.map_cons, List.map_nil] at nd
    exact fun hpa => (List.nodup_append.mp nd).2.2 p hpa p (List.mem_singleton_self p) rfl

open Repack in
/-- interrupted anywhere, a repack never lets a key read as anything but itself; at worst the read fails loudly because
    the index names the temporary pack -/
theorem safe_repackPack {t : Tab} (wf : t.WF) {s : St} (inv : Inv t s) (hb : Bounded s) (nt : NoTmp s) (p : Nat)
    (hp : p ≠ tmpId) (zs : List Bool) (hz : zs.length = (rowsOfPack s.rows p).length) :
    AllSafe t s (actsRepackPack t s p zs) (keysOf s) := by
  have _ := hb
  have _ := hz
  obtain ⟨_, h, _⟩ := path_repackPack inv nt p hp zs
  exact allSafe_of_gw wf h.1

namespace Repack

/-! Two invariants of the repack relative to its start state `s` (`Ph1`: up to the first commit).  No proof uses them (nor
`RowIn`, which is `SegOK` word for word): the proofs go through `Imp.GW false`, which does not mention the start state, and
`path_cons` computes the states of a repack exactly. -/

def RowIn (t : Tab) (segs : List Seg) (r : Row) : Prop :=
  ∃ pre post, segs = pre ++ (⟨r.key, r.z⟩ : Seg) :: post ∧
    r.off = segsLen t pre ∧ r.len = Seg.len t ⟨r.key, r.z⟩ ∧ r.size = t.size r.key

structure Good (t : Tab) (s : St) (x : XSt) : Prop where
  loose : x.loose = (ofSt s).loose
  target : x.target = s.target
  keys : x.rows.map (·.key) = s.rows.map (·.key)
  ids : x.rows.map (·.id) = s.rows.map (·.id)
  ids_pos : ∀ r1 ∈ x.rows, ∀ r2 ∈ x.rows, r1.pack = r2.pack → r1.id < r2.id → r1.off + r1.len ≤ r2.off
  rows_ok : ∀ r ∈ x.rows, ∃ segs, getX x.packs r.pack = some (full segs) ∧ RowIn t segs r
  packs_nodup : (x.packs.map (·.1)).Nodup

structure Ph1 (s : St) (x : XSt) : Prop where
  loose : x.loose = (ofSt s).loose
  target : x.target = s.target
  rows : x.rows = s.rows
  packs : ∀ q, q ≠ tmpId → getX x.packs q = getX (ofSt s).packs q
  nodup : (x.packs.map (·.1)).Nodup

end Repack

end Dos.IO
