/-
`ofSt b` is the Level-C state in which nothing is buffered, unsynced, locked or open.  The directory operations, a commit and
the writing of a new pack file from `lock` to `unlock` lead from one such state to another: each has a Level-B shadow.
-/
import Dos.Proofs.IOGood

namespace Dos.IO.Repack

theorem getX_eraseX_eq (ps : List (Nat × XPack)) (p : Nat) : getX (eraseX ps p) p = none := by
  rw [getX_eraseX, if_pos rfl]

theorem exec_pkUnlink (b : St) (p : Nat) :
    exec (ofSt b) (.pkUnlink p) = ofSt { b with packs := erasePack b.packs p } := by
  simp only [exec, eraseX_ofSt]
  rfl

theorem exec_pkLink {b : St} {src : Nat} {g : List Seg} (h : getPack b.packs src = some g) (dst : Nat) :
    exec (ofSt b) (.pkLink src dst) = ofSt { b with packs := setPack b.packs dst g } := by
  simp only [exec, getX_ofSt, h, Option.map_some, setX_ofSt]
  rfl

/-- the states of the repack differ from the start in the packs, the index, the open transaction and the locks -/
def st (s : St) (L : List Nat) (P : List (Nat × XPack)) (R : List Row) (W : Option (List Row)) : XSt :=
  { loose := (ofSt s).loose, sandbox := none, packs := P, rows := R, work := W, locks := L,
    cur := s.cur, target := s.target }

theorem ofSt_eq_st (s : St) : ofSt s = st s [] (ofSt s).packs s.rows none := rfl

theorem exec_writes (s : St) (L : List Nat) (P : List (Nat × XPack)) (R : List Row) (W : Option (List Row)) (q : Nat)
    (v : XPack) (gs : List Seg) :
    execAll (st s L (setX P q v) R W) (gs.map (fun g => Act.pkWrite q g)) =
      st s L (setX P q { v with segs := v.segs ++ gs }) R W := by
  induction gs generalizing v with
  | nil => simp [execAll]
  | cons g gs ih =>
    have : exec (st s L (setX P q v) R W) (.pkWrite q g) = st s L (setX P q { v with segs := v.segs ++ [g] }) R W := by
      simp only [exec, st, updX_setX]
    simp only [List.map_cons, execAll, this, ih, List.append_assoc, List.singleton_append]

theorem exec_newPack {b : St} {q : Nat} (hq : getPack b.packs q = none) (p : Nat) (gs : List Seg) :
    execAll (ofSt b) ([.lock q, .pkOpen q, .pkRead p] ++ gs.map (fun g => Act.pkWrite q g) ++
      [.pkFlush q, .pkFsync q, .dirSync, .pkClose q, .unlock q]) = ofSt { b with packs := setPack b.packs q gs } := by
  have e : execAll (ofSt b) [.lock q, .pkOpen q, .pkRead p] = st b [q] (setX (ofSt b).packs q ⟨[], 0, 0⟩) b.rows none := by
    have h : getX (ofSt b).packs q = none := by rw [getX_ofSt, hq]; rfl
    simp only [execAll, exec, h]
    rfl
  rw [execAll_append, execAll_append, e, exec_writes]
  simp only [execAll, exec, st, updX_setX, List.nil_append]
  rw [show (⟨gs, gs.length, gs.length⟩ : XPack) = full gs from rfl, setX_ofSt]
  simp only [List.filter, bne_self_eq_false]
  rfl

section
variable {t : Tab} {keep : List Nat} {x y z : XSt} {a : Act} {as bs : List Act}

def GoodPath (t : Tab) (keep : List Nat) (x : XSt) (acts : List Act) (y : XSt) : Prop :=
  AllP (Imp.GW false t keep) x acts ∧ execAll x acts = y

theorem GoodPath.nil (g : Imp.GW false t keep x) : GoodPath t keep x [] x :=
  ⟨allP_nil g, rfl⟩

theorem GoodPath.cons (g : Imp.GW false t keep x) (h : GoodPath t keep (exec x a) as y) :
    GoodPath t keep x (a :: as) y :=
  ⟨allP_cons g h.1, h.2⟩

theorem GoodPath.append (h1 : GoodPath t keep x as y) (h2 : GoodPath t keep y bs z) :
    GoodPath t keep x (as ++ bs) z := by
  obtain ⟨a1, rfl⟩ := h1
  exact ⟨allP_append a1 h2.1, by rw [execAll_append, h2.2]⟩

def harmless : Act → Bool
  | .pkRead _ | .sqlMove _ => true
  | a => plain a

theorem gw_step (x : XSt) (a : Act) (ha : harmless a = true) (g : Imp.GW false t keep x) : Imp.GW false t keep (exec x a) := by
  unfold harmless at ha
  split at ha
  · exact g
  · exact ⟨g.com, g.sb, g.tgt⟩  -- `sqlMove` changes `work` only
  · exact Imp.gw_plain g ha

theorem GoodPath.steps (g : Imp.GW false t keep x) (h : ∀ a ∈ as, harmless a = true) (e : execAll x as = y) :
    GoodPath t keep x as y :=
  ⟨allP_of_step gw_step h g, e⟩

theorem GoodPath.end (h : GoodPath t keep x as y) : Imp.GW false t keep y := h.2 ▸ allP_end h.1

theorem path_newPack {b : St} (g : Imp.GW false t keep (ofSt b)) {q : Nat}
    (hq : getPack b.packs q = none) (p : Nat) (gs : List Seg) :
    GoodPath t keep (ofSt b) ([.lock q, .pkOpen q, .pkRead p] ++ gs.map (fun g => Act.pkWrite q g) ++
      [.pkFlush q, .pkFsync q, .dirSync, .pkClose q, .unlock q]) (ofSt { b with packs := setPack b.packs q gs }) :=
  .steps g (List.all_eq_true.mp (all_append_of (all_append_of rfl (all_map_of (fun _ => rfl) gs)) rfl))
    (exec_newPack hq p gs)

end

end Dos.IO.Repack
