/-
`Inv` under the operations that only append to packs, touch loose files or remove rows.
-/
import Dos.Proofs.Read

namespace Dos

theorem rowOK_setPack_append {t : Tab} {packs : Packs} {r : Row} (p : Nat) (ext : List Seg)
    (h : RowOK t packs r) : RowOK t (setPack packs p ((getPack packs p).getD [] ++ ext)) r := by
  obtain ⟨segs, hg, hs⟩ := IO.rowOK_iff.mp h
  by_cases hp : r.pack = p
  · subst hp
    exact IO.rowOK_iff.mpr
      ⟨segs ++ ext, by rw [getPack_setPack_eq, hg, Option.getD_some], IO.segOK_prefix (List.prefix_append ..) hs⟩
  · exact IO.rowOK_iff.mpr ⟨segs, (getPack_setPack_ne hp).trans hg, hs⟩

theorem rowOK_end_le {t : Tab} {packs : Packs} {r : Row} (h : RowOK t packs r) :
    r.off + r.len ≤ segsLen t ((getPack packs r.pack).getD []) := by
  obtain ⟨segs, pre, post, hg, hs, ho, hl, _⟩ := h
  rw [hg, hs, ho, hl, Option.getD_some, segsLen_append, segsLen_cons]
  exact Nat.add_le_add_left (Nat.le_add_right ..) _

theorem insertIgnore_cases (rows : List Row) (r : Row) :
    (r.key ∈ rows.map (·.key) ∧ insertIgnore rows r = rows) ∨
    (r.key ∉ rows.map (·.key) ∧ insertIgnore rows r = rows ++ [{ r with id := nextId rows }]) := by
  have hany : (rows.any fun x => x.key == r.key) = true ↔ r.key ∈ rows.map (·.key) := by
    simp only [List.any_eq_true, beq_iff_eq, List.mem_map]
  unfold insertIgnore
  by_cases h : r.key ∈ rows.map (·.key)
  · exact Or.inl ⟨h, if_pos (hany.mpr h)⟩
  · exact Or.inr ⟨h, if_neg (mt hany.mp h)⟩

theorem mem_insertIgnore {rows : List Row} {row r : Row} (h : r ∈ insertIgnore rows row) :
    r ∈ rows ∨ (r = { row with id := nextId rows } ∧ row.key ∉ rows.map (·.key)) := by
  rcases insertIgnore_cases rows row with ⟨_, e⟩ | ⟨hn, e⟩ <;> rw [e] at h
  · exact Or.inl h
  · exact (List.mem_append.mp h).imp id fun h => ⟨List.mem_singleton.mp h, hn⟩

theorem mem_insertIgnore_of_mem {rows : List Row} (row : Row) {r : Row} (h : r ∈ rows) : r ∈ insertIgnore rows row := by
  rcases insertIgnore_cases rows row with ⟨_, e⟩ | ⟨_, e⟩ <;> rw [e]
  · exact h
  · exact List.mem_append_left _ h

theorem mem_keys_insertIgnore (rows : List Row) (r : Row) (k : Nat) :
    k ∈ (insertIgnore rows r).map (·.key) ↔ k ∈ rows.map (·.key) ∨ k = r.key := by
  rcases insertIgnore_cases rows r with ⟨hm, e⟩ | ⟨_, e⟩ <;> rw [e]
  · exact ⟨Or.inl, fun h => h.elim id (· ▸ hm)⟩
  · rw [List.map_append, List.mem_append, List.map_singleton, List.mem_singleton]

namespace IO

theorem sub_foldl_insertIgnore (rs : List Row) (R : List Row) (r : Row) (h : r ∈ R) : r ∈ rs.foldl insertIgnore R := by
  induction rs generalizing R with
  | nil => exact h
  | cons a rs ih => exact ih _ (mem_insertIgnore_of_mem a h)

theorem mem_foldl_insertIgnore (rs : List Row) (R : List Row) (r : Row) (h : r ∈ rs.foldl insertIgnore R) :
    r ∈ R ∨ ∃ r0 ∈ rs, r.pack = r0.pack ∧ r.key = r0.key := by
  induction rs generalizing R with
  | nil => exact Or.inl h
  | cons a rs ih =>
    rcases ih _ h with h1 | ⟨r0, h0, h1⟩
    · rcases mem_insertIgnore h1 with h2 | ⟨h2, _⟩
      · exact Or.inl h2
      · exact Or.inr ⟨a, List.mem_cons_self, by rw [h2], by rw [h2]⟩
    · exact Or.inr ⟨r0, List.mem_cons_of_mem _ h0, h1⟩

theorem key_mem_foldl_insertIgnore (rs : List Row) (R : List Row) (r0 : Row) (h : r0 ∈ rs) :
    r0.key ∈ (rs.foldl insertIgnore R).map (·.key) := by
  induction rs generalizing R with
  | nil => cases h
  | cons a rs ih =>
    rcases List.mem_cons.mp h with h | h
    · subst h
      have h1 : r0.key ∈ (insertIgnore R r0).map (·.key) := (mem_keys_insertIgnore R r0 r0.key).mpr (Or.inr rfl)
      obtain ⟨y, hy, hk⟩ := List.mem_map.mp h1
      exact List.mem_map.mpr ⟨y, sub_foldl_insertIgnore rs _ _ hy, hk⟩
    · exact ih _ h

end IO

theorem keys_nodup_insertIgnore {rows : List Row} (row : Row) (h : (rows.map (·.key)).Nodup) :
    ((insertIgnore rows row).map (·.key)).Nodup := by
  rcases insertIgnore_cases rows row with ⟨_, e⟩ | ⟨hn, e⟩ <;> rw [e]
  · exact h
  · exact nodup_map_snoc h hn

theorem ids_nodup_insertIgnore {rows : List Row} (row : Row) (h : (rows.map (·.id)).Nodup) :
    ((insertIgnore rows row).map (·.id)).Nodup := by
  rcases insertIgnore_cases rows row with ⟨_, e⟩ | ⟨_, e⟩ <;> rw [e]
  · exact h
  · refine nodup_map_snoc h fun hm => ?_
    obtain ⟨x, hx, hk⟩ := List.mem_map.mp hm
    exact absurd hk (Nat.ne_of_lt (lt_nextId hx))

theorem inv_write_at {t : Tab} {s : St} (inv : Inv t s) (p c : Nat) (z : Bool) (cur : Nat) :
    Inv t { s with
      packs := setPack s.packs p ((getPack s.packs p).getD [] ++ [(⟨c, z⟩ : Seg)]),
      cur := cur,
      rows := insertIgnore s.rows
        { id := 0, key := c, pack := p, off := segsLen t ((getPack s.packs p).getD []),
          len := Seg.len t ⟨c, z⟩, z := z, size := t.size c } } :=
  { inv with
    rows_ok := fun r hr => by
      rcases mem_insertIgnore hr with hr | ⟨rfl, _⟩
      · exact rowOK_setPack_append p _ (inv.rows_ok r hr)
      · exact ⟨_, (getPack s.packs p).getD [], [], getPack_setPack_eq, rfl, rfl, rfl, rfl⟩
    keys_nodup := keys_nodup_insertIgnore _ inv.keys_nodup
    ids_nodup := ids_nodup_insertIgnore _ inv.ids_nodup
    ids_pos := fun r1 h1 r2 h2 hp hid => by
      rcases mem_insertIgnore h1 with h1 | ⟨rfl, _⟩
      · rcases mem_insertIgnore h2 with h2 | ⟨rfl, _⟩
        · exact inv.ids_pos r1 h1 r2 h2 hp hid
        · -- the new row starts at the end of the pack
          exact (show r1.pack = p from hp) ▸ rowOK_end_le (inv.rows_ok r1 h1)
      · -- the new row has the largest id
        rcases mem_insertIgnore h2 with h2 | ⟨rfl, _⟩
        · exact absurd hid (Nat.lt_asymm (lt_nextId h2))
        · exact absurd hid (Nat.lt_irrefl _)
    packs_nodup := nodup_keys_setPack _ _ inv.packs_nodup }

theorem inv_set_cur {t : Tab} {s : St} (inv : Inv t s) (c : Nat) : Inv t { s with cur := c } := { inv with }

theorem inv_filter_loose {t : Tab} {s : St} (inv : Inv t s) (f : Nat × Nat → Bool) :
    Inv t { s with loose := s.loose.filter f } :=
  { inv with
    loose_nodup := inv.loose_nodup.sublist (List.filter_sublist.map _)
    loose_ok := fun e he => inv.loose_ok e (List.mem_filter.mp he).1 }

theorem inv_removeLoose {t : Tab} {s : St} (inv : Inv t s) (ks : List Nat) : Inv t (removeLoose s ks) :=
  inv_filter_loose inv _

theorem inv_empty (t : Tab) {tg : Nat} (h : 0 < tg) : Inv t (St.empty tg) :=
  ⟨nofun, .nil, .nil, nofun, .nil, .nil, nofun, h⟩

theorem keys_map_fix (l : List (Nat × Nat)) (c : Nat) :
    (l.map (fun e => if e.1 = c then (c, c) else e)).map (·.1) = l.map (·.1) := by
  rw [List.map_map]
  refine List.map_congr_left fun e _ => ?_
  show (if e.1 = c then (c, c) else e).1 = e.1
  split
  · next h => exact h.symm
  · rfl

theorem addLoose_cases (s : St) (c : Nat) :
    (findLoose s.loose c = some c ∧ addLoose s c = s) ∨
    (c ∈ s.loose.map (·.1) ∧
      addLoose s c = { s with loose := s.loose.map (fun e => if e.1 = c then (c, c) else e) }) ∨
    (c ∉ s.loose.map (·.1) ∧ addLoose s c = { s with loose := s.loose ++ [(c, c)] }) := by
  unfold addLoose
  cases hf : findLoose s.loose c with
  | none => exact Or.inr (Or.inr ⟨findLoose_none_iff.mp hf, rfl⟩)
  | some c' =>
    by_cases hc : c' = c
    · exact Or.inl ⟨hc ▸ rfl, if_pos hc⟩
    · exact Or.inr (Or.inl ⟨List.mem_map.mpr ⟨_, findLoose_some hf, rfl⟩, if_neg hc⟩)

theorem addLoose_rows (s : St) (c : Nat) : (addLoose s c).rows = s.rows := by
  rcases addLoose_cases s c with ⟨_, e⟩ | ⟨_, e⟩ | ⟨_, e⟩ <;> rw [e]

theorem inv_addLoose {t : Tab} {s : St} (inv : Inv t s) (c : Nat) : Inv t (addLoose s c) := by
  rcases addLoose_cases s c with ⟨_, e⟩ | ⟨_, e⟩ | ⟨hn, e⟩ <;> rw [e]
  · exact inv
  · refine { inv with loose_nodup := (keys_map_fix s.loose c).symm ▸ inv.loose_nodup, loose_ok := fun e he => ?_ }
    obtain ⟨x, hx, rfl⟩ := List.mem_map.mp he
    split
    · rfl
    · exact inv.loose_ok x hx
  · refine { inv with loose_nodup := nodup_map_snoc inv.loose_nodup hn, loose_ok := fun e he => ?_ }
    rcases List.mem_append.mp he with he | he
    · exact inv.loose_ok e he
    · rw [List.mem_singleton.mp he]

theorem loosen_eq_some {t : Tab} {s s' : St} {k : Nat} :
    loosen t s k = some s' ↔
    (hasLoose s k = true ∧ s = s') ∨ (hasLoose s k = false ∧ ∃ c, getc t s k = some c ∧ addLoose s c = s') := by
  unfold loosen
  cases hasLoose s k
  · cases getc t s k <;> simp
  · simp

theorem inv_loosen {t : Tab} {s s' : St} (inv : Inv t s) {k : Nat} (h : loosen t s k = some s') : Inv t s' := by
  rcases loosen_eq_some.mp h with ⟨_, rfl⟩ | ⟨_, c, _, rfl⟩
  · exact inv
  · exact inv_addLoose inv c

/-- `lock_pack` may create any pack file it is asked for -/
theorem inv_open_at {t : Tab} {s : St} (inv : Inv t s) (p : Nat) :
    Inv t { s with cur := p, packs := ensurePack s.packs p } :=
  { inv with
    rows_ok := fun r hr => ensurePack_eq s.packs p ▸ rowOK_setPack_append p [] (inv.rows_ok r hr)
    packs_nodup := ensurePack_eq s.packs p ▸ nodup_keys_setPack p _ inv.packs_nodup }

theorem inv_openCur {t : Tab} {s : St} (inv : Inv t s) : Inv t (openCur t s) := inv_open_at inv _

theorem inv_writeObj {t : Tab} {s : St} (inv : Inv t s) (c : Nat) (z : Bool) : Inv t (writeObj t s c z) :=
  inv_write_at inv (choosePack t s) c z (choosePack t s)

theorem inv_clean {t : Tab} {s : St} (inv : Inv t s) : Inv t (clean s) :=
  inv_filter_loose inv _

theorem inv_delete {t : Tab} {s : St} (inv : Inv t s) (ks : List Nat) : Inv t (delete s ks).1 :=
  { inv_filter_loose inv _ with
    rows_ok := fun r hr => inv.rows_ok r (List.mem_filter.mp hr).1
    keys_nodup := inv.keys_nodup.sublist (List.filter_sublist.map _)
    ids_nodup := inv.ids_nodup.sublist (List.filter_sublist.map _)
    ids_pos := fun r1 h1 r2 h2 => inv.ids_pos r1 (List.mem_filter.mp h1).1 r2 (List.mem_filter.mp h2).1 }

theorem inv_reopen {t : Tab} {s : St} (inv : Inv t s) : Inv t (reopen s) :=
  inv_set_cur inv 0

end Dos
