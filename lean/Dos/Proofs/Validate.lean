/-
`validate` reports nothing on a state satisfying the invariant (first half of C12).
-/
import Dos.Proofs.InvRepack

namespace Dos

theorem overlapsGo_nil_of_pairwise (l : List Row) (pos : Nat)
    (hp : l.Pairwise (fun a b => a.off + a.len ≤ b.off)) (hpos : ∀ r ∈ l, pos ≤ r.off) :
    overlapsGo l pos = [] := by
  induction l generalizing pos with
  | nil => rfl
  | cons r rs ih =>
    obtain ⟨hr, hrs⟩ := List.pairwise_cons.mp hp
    rw [overlapsGo, if_neg (Nat.not_lt.mpr (hpos r List.mem_cons_self)), List.nil_append]
    exact ih _ hrs hr

theorem validate_clean {t : Tab} (wf : t.WF) {s : St} (inv : Inv t s) : (validate t s).clean = true := by
  have hread : ∀ r ∈ s.rows, readRow t s r = some r.key := fun r hr => readRow_of_rowOK wf (inv.rows_ok r hr)
  have hBadLoose : (s.loose.filter (fun e => e.1 != e.2)).map (·.1) = [] := by
    rw [List.map_eq_nil_iff, List.filter_eq_nil_iff]
    intro e he
    simp [inv.loose_ok e he]
  have hBadHash : (s.rows.filter (fun r => readRow t s r != some r.key)).map (·.key) = [] := by
    rw [List.map_eq_nil_iff, List.filter_eq_nil_iff]
    intro r hr
    simp [hread r hr]
  have hOverlap : (dedup (s.rows.map (·.pack))).flatMap (fun p => overlapsGo (sortByOff (rowsOfPack s.rows p)) 0) = [] := by
    rw [List.flatMap_eq_nil_iff]
    intro p _
    exact overlapsGo_nil_of_pairwise _ 0 ((srt_ordered inv p).imp (·.2)) fun _ _ => Nat.zero_le _
  simp only [Issues.clean, validate, hBadLoose, hBadHash, hOverlap, List.isEmpty_nil, Bool.true_and, Bool.and_true,
    List.isEmpty_iff, List.map_eq_nil_iff, List.filter_eq_nil_iff]
  -- what is left is `badSize`: its test is a `match`, which cannot be restated outside `validate`
  intro r hr
  simp [hread r hr, (inv.rows_ok r hr).size]

end Dos
