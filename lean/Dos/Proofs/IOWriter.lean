/-
The model's copies of the session opener and of the per-object step differ only in the action list `e q rows` that ends a
session; here `e` is a variable.
-/
import Dos.IOPackAllO

namespace Dos.IO

def wOpenG (t : Tab) (e : Nat → List Row → List Act) (w : WSt) : WSt :=
  let s1 := openCur t w.s
  let p := s1.cur
  match w.openP with
  | some q =>
    if q = p then { w with s := s1 }
    else { s := s1, openP := some p, rows := [], acts := w.acts ++ e q w.rows ++ [.lock p, .pkOpen p] }
  | none => { s := s1, openP := some p, rows := [], acts := w.acts ++ [.lock p, .pkOpen p] }

/-- one object of the direct-to-pack writers -/
def wAddG (t : Tab) (z noHoles readTwice : Bool) (e : Nat → List Row → List Act) (w : WSt) (c : Nat) : WSt :=
  let w1 := wOpenG t e w
  let p := w1.s.cur
  if noHoles && hasRow w1.s c then
    if readTwice then w1
    else { w1 with acts := w1.acts ++ [.pkWrite p ⟨c, z⟩, .pkTruncate p 1] }
  else
    let r := rowFor t w1.s p c z
    { w1 with s := writeObj t w1.s c z, rows := w1.rows ++ [r], acts := w1.acts ++ [.pkWrite p ⟨c, z⟩] }

/-- one object of `pack_all_loose` -/
def wPackG (t : Tab) (e : Nat → List Row → List Act) (w : WSt) (cz : Nat × Bool) : WSt :=
  let w1 := wOpenG t e w
  let p := w1.s.cur
  let r := rowFor t w1.s p cz.1 cz.2
  { w1 with s := writeObj t w1.s cz.1 cz.2, rows := w1.rows ++ [r],
            acts := w1.acts ++ [.readLoose cz.1, .pkWrite p ⟨cz.1, cz.2⟩] }

def finG (e : Nat → List Row → List Act) (w : WSt) : List Act :=
  match w.openP with
  | some q => w.acts ++ e q w.rows
  | none => w.acts

def w0 (s : St) : WSt := { s := s, openP := none, rows := [], acts := [] }

theorem wOpen_eq (t : Tab) (nh : Bool) : wOpen t nh = wOpenG t (sessionEnd · · nh) := rfl
theorem wOpenPA_eq (t : Tab) (cl : Bool) : wOpenPA t cl = wOpenG t (sessionEndClean · · cl) := rfl
theorem wOpenO_eq (t : Tab) (nh df dc : Bool) : wOpenO t nh df dc = wOpenG t (sessionEndO · · nh df dc) := rfl
theorem wOpenPAO_eq (t : Tab) (cl df : Bool) : wOpenPAO t cl df = wOpenG t (sessionEndCleanO · · cl df) := rfl

theorem wAddPacked_eq (t : Tab) (z nh rt : Bool) : wAddPacked t z nh rt = wAddG t z nh rt (sessionEnd · · nh) := rfl
theorem wAddPackedO_eq (t : Tab) (z nh rt df dc : Bool) :
    wAddPackedO t z nh rt df dc = wAddG t z nh rt (sessionEndO · · nh df dc) := rfl
theorem wPackLoose_eq (t : Tab) : wPackLoose t = wPackG t (sessionEnd · · false) := rfl
theorem wPackLooseC_eq (t : Tab) (cl : Bool) : wPackLooseC t cl = wPackG t (sessionEndClean · · cl) := rfl
theorem wPackLooseCO_eq (t : Tab) (cl df : Bool) : wPackLooseCO t cl df = wPackG t (sessionEndCleanO · · cl df) := rfl

theorem actsAddPacked_eq (t : Tab) (s : St) (cs : List Nat) (z nh rt : Bool) :
    actsAddPacked t s cs z nh rt =
      if cs = [] then [] else finG (sessionEnd · · nh) (cs.foldl (wAddG t z nh rt (sessionEnd · · nh)) (w0 s)) := by
  cases cs <;> rfl

theorem callActs_eq (t : Tab) (s : St) (cs : List Nat) (z nh rt df dc : Bool) :
    callActs t s cs z nh rt df dc =
      if cs = [] then ([], { s with cur := choosePack t s })
      else (finG (sessionEndO · · nh df dc) (cs.foldl (wAddG t z nh rt (sessionEndO · · nh df dc)) (w0 s)),
            (cs.foldl (wAddG t z nh rt (sessionEndO · · nh df dc)) (w0 s)).s) := by
  cases cs <;> rfl

theorem actsPackAll_eq (t : Tab) (s : St) (order : List Nat) (zs : List Bool) (cl : Bool) :
    actsPackAll t s order zs cl =
      if order = [] then []
      else finG (sessionEndClean · · cl) ((order.zip zs).foldl (wPackG t (sessionEndClean · · cl)) (w0 s)) := by
  cases order <;> rfl

theorem actsPackAllO_eq (t : Tab) (s : St) (order : List Nat) (zs : List Bool) (cl df : Bool) :
    actsPackAllO t s order zs cl df =
      if order = [] then []
      else finG (sessionEndCleanO · · cl df) ((order.zip zs).foldl (wPackG t (sessionEndCleanO · · cl df)) (w0 s)) := by
  cases order <;> rfl

theorem sessionEndO_true (p : Nat) (rows : List Row) (trunc : Bool) :
    sessionEndO p rows trunc true true = sessionEnd p rows trunc := by
  cases rows <;> simp [sessionEndO, sessionEnd]

theorem sessionEndCleanO_true (p : Nat) (rows : List Row) (cl : Bool) :
    sessionEndCleanO p rows cl true = sessionEndClean p rows cl := by
  simp only [sessionEndCleanO, sessionEndClean, sessionEndO_true]

/-- with the default `do_fsync=True` the optioned compiler is the plain one -/
theorem actsAddPackedO_fsync (t : Tab) (s : St) (cs : List Nat) (z nh rt : Bool) :
    actsAddPackedO t s cs z nh rt true = actsAddPacked t s cs z nh rt := by
  have e : (sessionEndO · · nh true true) = (sessionEnd · · nh) :=
    funext fun q => funext fun rs => sessionEndO_true q rs nh
  rw [actsAddPackedO, callActs_eq, actsAddPacked_eq, e]
  split <;> rfl

theorem actsPackAllO_fsync (t : Tab) (s : St) (order : List Nat) (zs : List Bool) (cl : Bool) :
    actsPackAllO t s order zs cl true = actsPackAll t s order zs cl := by
  have e : (sessionEndCleanO · · cl true) = (sessionEndClean · · cl) :=
    funext fun q => funext fun rs => sessionEndCleanO_true q rs cl
  rw [actsPackAllO_eq, actsPackAll_eq, e]

end Dos.IO
