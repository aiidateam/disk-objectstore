/-
The decoder contract is satisfiable: the run-length toy decoder used by the correspondence harness satisfies it
for the streams its encoder produces (non-vacuity of `decomp_refines_ref`).
-/
import Dos.Proofs.StreamRef

namespace Dos.Stream

namespace Toy

/-- `Enc er br`: `er` is a complete record stream (records, then `[0, 0]`) that decodes to `br` -/
inductive Enc : Bytes → Bytes → Prop
  | nil : Enc [0, 0] []
  | lit (x : UInt8) (er br : Bytes) : Enc er br → Enc (1 :: x :: er) (x :: br)
  | run (x k : UInt8) (er br : Bytes) : 1 ≤ k.toNat → Enc er br →
      Enc (2 :: x :: k :: er) (List.replicate k.toNat x ++ br)

theorem Enc.head {b : UInt8} {er br : Bytes} (h : Enc (b :: er) br) : b = 0 ∨ b = 1 ∨ b = 2 := by
  cases h
  · exact .inl rfl
  · exact .inr (.inl rfl)
  · exact .inr (.inr rfl)

theorem Enc.zero {b : UInt8} {er br : Bytes} (h : Enc (0 :: b :: er) br) : b = 0 ∧ er = [] ∧ br = [] := by
  cases h; exact ⟨rfl, rfl, rfl⟩

theorem Enc.one {x : UInt8} {er br : Bytes} (h : Enc (1 :: x :: er) br) : ∃ br', br = x :: br' ∧ Enc er br' := by
  cases h with | lit _ _ br' h => exact ⟨br', rfl, h⟩

theorem Enc.two {x k : UInt8} {er br : Bytes} (h : Enc (2 :: x :: k :: er) br) :
    ∃ br', br = List.replicate k.toNat x ++ br' ∧ 1 ≤ k.toNat ∧ Enc er br' := by
  cases h with | run _ _ _ br' hk h => exact ⟨br', rfl, hk, h⟩

/-- the bytes of an incomplete record: none, the tag (`Enc.head`), or the tag and the byte of a run -/
def HoldOK (h : Bytes) : Prop := h = [] ∨ (∃ a, h = [a] ∧ (a = 0 ∨ a = 1 ∨ a = 2)) ∨ ∃ x, h = [2, x]

theorem HoldOK.not_enc {h br : Bytes} (hh : HoldOK h) (he : Enc h br) : False := by
  rcases hh with rfl | ⟨a, rfl, _⟩ | ⟨x, rfl⟩ <;> cases he

/-- `G st er br`: from state `st`, the rest `er` of the compressed stream yields exactly `br` and ends the stream -/
def G (st : ToyState) (er br : Bytes) : Prop :=
  st.bad = false ∧
  if st.eof = true then er = [] ∧ br = []
  else match st.run with
    | some (x, k) => st.hold = [] ∧ 1 ≤ k ∧ ∃ br', br = List.replicate k x ++ br' ∧ Enc er br'
    | none => HoldOK st.hold ∧ Enc (st.hold ++ er) br

/-! The three kinds of good state: inside a record, inside a run, at the end. -/

theorem G.hold {h tl er br : Bytes} (hh : HoldOK h) (he : Enc (h ++ er) br) : G ⟨h, none, tl, false, false⟩ er br :=
  ⟨rfl, hh, he⟩

theorem G.run {x : UInt8} {k : Nat} {tl er br : Bytes} (hk : 1 ≤ k) (he : Enc er br) :
    G ⟨[], some (x, k), tl, false, false⟩ er (List.replicate k x ++ br) :=
  ⟨rfl, rfl, hk, br, rfl, he⟩

theorem G.eof {hold tl er : Bytes} {run : Option (UInt8 × Nat)} (he : er = []) :
    G ⟨hold, run, tl, true, false⟩ er [] :=
  ⟨rfl, he, rfl⟩

theorem G.eof_iff {st : ToyState} {er br : Bytes} (h : G st er br) : st.eof = true ↔ er = [] := by
  obtain ⟨_, h⟩ := h
  by_cases he : st.eof = true
  · rw [if_pos he] at h; exact ⟨fun _ => h.1, fun _ => he⟩
  · rw [if_neg he] at h
    refine ⟨fun h' => absurd h' he, fun h' => ?_⟩
    subst h'
    exfalso
    split at h
    · obtain ⟨_, _, _, _, h⟩ := h; cases h
    · exact h.1.not_enc (List.append_nil _ ▸ h.2)

theorem G.nil_out {st : ToyState} {br : Bytes} (h : G st [] br) : br = [] := by
  have he := h.eof_iff.2 rfl
  obtain ⟨_, h⟩ := h
  rw [if_pos he] at h
  exact h.2

/-! One iteration of `toyGo`, case by case, with the state spelt out and a positive output limit written `room + 1`: each
equation then holds by computation. -/

section step
variable (hold tl inp out rest : Bytes) (run : Option (UInt8 × Nat)) (bad : Bool) (f room : Nat) (x : UInt8)

theorem go_eof : toyGo (f + 1) ⟨hold, run, tl, true, bad⟩ inp room out = (⟨hold, run, [], true, bad⟩, out) := rfl

theorem go_room0 : toyGo (f + 1) ⟨hold, run, tl, false, false⟩ inp 0 out = (⟨hold, run, inp, false, false⟩, out) := by
  rcases run with _ | ⟨_, _⟩ <;> rfl

theorem go_run (k : Nat) :
    toyGo (f + 1) ⟨hold, some (x, k), tl, false, false⟩ inp (room + 1) out =
      toyGo f ⟨hold, if k - min k (room + 1) = 0 then none else some (x, k - min k (room + 1)), tl, false, false⟩ inp
        (room + 1 - min k (room + 1)) (out ++ List.replicate (min k (room + 1)) x) := rfl

theorem go_nil : toyGo (f + 1) ⟨hold, none, tl, false, false⟩ [] room out = (⟨hold, none, [], false, false⟩, out) := by
  cases room <;> rfl

theorem go_hold0 (b : UInt8) (hb : b = 0 ∨ b = 1 ∨ b = 2) :
    toyGo (f + 1) ⟨[], none, tl, false, false⟩ (b :: rest) (room + 1) out =
      toyGo f ⟨[b], none, tl, false, false⟩ rest (room + 1) out := by
  rcases hb with rfl | rfl | rfl <;> rfl

theorem go_hold2 :
    toyGo (f + 1) ⟨[2], none, tl, false, false⟩ (x :: rest) (room + 1) out =
      toyGo f ⟨[2, x], none, tl, false, false⟩ rest (room + 1) out := rfl

theorem go_end :
    toyGo (f + 1) ⟨[0], none, tl, false, false⟩ (0 :: rest) (room + 1) out =
      toyGo f ⟨[], none, tl, true, false⟩ rest (room + 1) out := rfl

theorem go_lit :
    toyGo (f + 1) ⟨[1], none, tl, false, false⟩ (x :: rest) (room + 1) out =
      toyGo f ⟨[], none, tl, false, false⟩ rest room (out ++ [x]) := rfl

theorem go_runrec (k : UInt8) (hk : 1 ≤ k.toNat) :
    toyGo (f + 1) ⟨[2, x], none, tl, false, false⟩ (k :: rest) (room + 1) out =
      toyGo f ⟨[], some (x, k.toNat), tl, false, false⟩ rest (room + 1) out := by
  show toyGo f ⟨[], if k.toNat = 0 then none else some (x, k.toNat), tl, false, false⟩ rest (room + 1) out = _
  rw [if_neg (Nat.ne_of_gt hk)]

end step

/-- a run of `toyGo` from a good state consumed a prefix `ci` of `inp`, appended a prefix `o` of the expected content to
    `out` and ends in a good state; `t` is the compressed stream beyond `inp`, which the run does not see -/
def Post (r : ToyState × Bytes) (inp t br out : Bytes) (room : Nat) : Prop :=
  ∃ ci o br', inp = ci ++ r.1.tail ∧ br = o ++ br' ∧ r.2 = out ++ o ∧ o.length ≤ room ∧
    G r.1 (r.1.tail ++ t) br' ∧ (o.length < room → r.1.tail = [])

theorem Post.consume {r : ToyState × Bytes} {rest t br out : Bytes} {room : Nat} (b : UInt8)
    (h : Post r rest t br out room) : Post r (b :: rest) t br out room := by
  obtain ⟨ci, o, br', h1, h⟩ := h
  exact ⟨b :: ci, o, br', congrArg (b :: ·) h1, h⟩

theorem Post.emit {r : ToyState × Bytes} {inp t br out : Bytes} {room : Nat} (p : Bytes) (n : Nat)
    (hn : p.length = n) (hp : n ≤ room)
    (h : Post r inp t br (out ++ p) (room - n)) : Post r inp t (p ++ br) out room := by
  subst hn
  obtain ⟨ci, o, br', h1, h2, h3, h4, h5, h6⟩ := h
  refine ⟨ci, p ++ o, br', h1, by rw [h2, List.append_assoc], by rw [h3, List.append_assoc], ?_, h5, fun hlt => h6 ?_⟩
  · rw [List.length_append]; exact Nat.add_le_of_le_sub' hp h4
  · rw [List.length_append] at hlt; exact Nat.lt_sub_iff_add_lt'.2 hlt

theorem Post.stop (st : ToyState) (inp t br out : Bytes) (room : Nat) (hG : G st (inp ++ t) br)
    (hroom : inp = [] ∨ room = 0) : Post ({ st with tail := inp }, out) inp t br out room :=
  ⟨[], [], br, rfl, rfl, (List.append_nil _).symm, Nat.zero_le _, hG,
    fun h => hroom.resolve_right (Nat.ne_of_gt h)⟩

theorem toyGo_spec (f : Nat) {st : ToyState} {inp : Bytes} {room : Nat} {out t br : Bytes}
    (hG0 : G st (inp ++ t) br) (hf : inp.length + room < f) : Post (toyGo f st inp room out) inp t br out room := by
  induction f generalizing st inp room out t br with
  | zero => exact nomatch hf
  | succ f ih =>
    obtain ⟨hold, run, tl, eof, bad⟩ := st
    have ⟨hbad, hG⟩ := hG0
    cases hbad
    cases eof with
    | true =>
      cases (List.append_eq_nil_iff.1 hG.1).1
      rw [go_eof]; exact Post.stop _ [] t br out room hG0 (.inl rfl)
    | false =>
    cases room with
    | zero => rw [go_room0]; exact Post.stop _ inp t br out 0 hG0 (.inr rfl)
    | succ room =>
    rcases run with _ | ⟨x, k⟩
    · obtain ⟨hh, henc⟩ := hG
      cases inp with
      | nil => rw [go_nil]; exact Post.stop _ [] t br out _ hG0 (.inl rfl)
      | cons b rest =>
        have hf' : rest.length + (room + 1) < f := by
          rw [List.length_cons, Nat.succ_add] at hf; exact Nat.lt_of_succ_lt_succ hf
        apply Post.consume
        rcases hh with rfl | ⟨a, rfl, rfl | rfl | rfl⟩ | ⟨x, rfl⟩
        · -- first byte of a record
          have hb := henc.head
          rw [go_hold0 (hb := hb)]
          exact ih (.hold (.inr (.inl ⟨b, rfl, hb⟩)) henc) hf'
        · -- [0, b]
          obtain ⟨rfl, hrest, rfl⟩ := henc.zero
          rw [go_end]
          exact ih (.eof hrest) hf'
        · -- [1, b]
          obtain ⟨br', rfl, henc'⟩ := henc.one
          rw [go_lit]
          exact Post.emit [b] 1 rfl (Nat.succ_pos _) (ih (.hold (.inl rfl) henc') (Nat.lt_of_succ_lt hf'))
        · -- [2, b]
          rw [go_hold2]
          exact ih (.hold (.inr (.inr ⟨b, rfl⟩)) henc) hf'
        · -- [2, x, b]
          obtain ⟨br', rfl, hk, henc'⟩ := henc.two
          rw [go_runrec (hk := hk)]
          exact ih (.run hk henc') hf'
    · obtain ⟨rfl, hk, br', rfl, henc⟩ := hG
      rw [go_run]
      -- of the number `n` of bytes emitted only its bounds matter
      have hn : 1 ≤ min k (room + 1) ∧ min k (room + 1) ≤ k ∧ min k (room + 1) ≤ room + 1 :=
        ⟨Nat.le_min.2 ⟨hk, Nat.succ_pos _⟩, Nat.min_le_left .., Nat.min_le_right ..⟩
      generalize min k (room + 1) = n at hn ⊢
      obtain ⟨j, rfl⟩ := Nat.le.dest hn.2.1
      rw [Nat.add_sub_cancel_left, ← List.replicate_append_replicate, List.append_assoc]
      have hroom : room + 1 - n ≤ room := Nat.sub_le_sub_left hn.1 _
      have hf' : inp.length + (room + 1 - n) < f :=
        Nat.lt_of_le_of_lt (Nat.add_le_add_left hroom _) (Nat.lt_of_succ_lt_succ hf)
      have hG' : G ⟨[], if j = 0 then none else some (x, j), tl, false, false⟩ (inp ++ t)
          (List.replicate j x ++ br') := by
        cases j with
        | zero => exact .hold (.inl rfl) henc
        | succ j => exact .run (Nat.succ_pos _) henc
      exact Post.emit _ n List.length_replicate hn.2.2 (ih hG' hf')

theorem runLen_split (x : UInt8) (ys : Bytes) (m : Nat) (hm : m ≤ runLen x ys) :
    ys = List.replicate m x ++ ys.drop m := by
  induction ys generalizing m with
  | nil => cases Nat.le_zero.1 hm; rfl
  | cons y ys ih =>
    cases m with
    | zero => rfl
    | succ m =>
      rw [runLen] at hm
      split at hm
      · next hy =>
        rw [Nat.add_comm 1, Nat.add_le_add_iff_right] at hm
        rw [hy, List.replicate_succ, List.cons_append, List.drop_succ_cons, ← ih m hm]
      · exact absurd hm (Nat.not_succ_le_zero m)

theorem encGo_Enc (f : Nat) (b : Bytes) (hb : b.length < f) : Enc (toyEncGo f b) b := by
  induction f generalizing b with
  | zero => exact nomatch hb
  | succ f ih =>
    cases b with
    | nil => exact Enc.nil
    | cons x rest =>
      rw [toyEncGo]
      -- of the length `n` of the run only its bounds matter
      have hn : min (1 + runLen x rest) 255 - 1 ≤ runLen x rest ∧ min (1 + runLen x rest) 255 ≤ 255 :=
        ⟨Nat.sub_le_of_le_add (Nat.add_comm 1 _ ▸ Nat.min_le_left ..), Nat.min_le_right ..⟩
      generalize min (1 + runLen x rest) 255 = n at hn
      have hb' : rest.length < f := Nat.lt_of_succ_lt_succ hb
      split
      · next h3 =>
        have h1 : 1 ≤ n := Nat.le_trans (by decide) h3
        have hto : (UInt8.ofNat n).toNat = n := by
          rw [UInt8.toNat_ofNat']; exact Nat.mod_eq_of_lt (Nat.lt_succ_of_le hn.2)
        have hxr : x :: rest = List.replicate (UInt8.ofNat n).toNat x ++ rest.drop (n - 1) := by
          rw [hto, ← Nat.sub_add_cancel h1, List.replicate_succ, List.cons_append,
            Nat.add_sub_cancel, ← runLen_split x rest _ hn.1]
        have henc := Enc.run x (UInt8.ofNat n) _ _ (hto.symm ▸ h1)
          (ih (rest.drop (n - 1)) (Nat.lt_of_le_of_lt (by rw [List.length_drop]; exact Nat.sub_le ..) hb'))
        exact hxr ▸ henc
      · exact Enc.lit x _ _ (ih rest hb')

theorem toyEnc_Enc (b : Bytes) : Enc (toyEnc b) b := encGo_Enc _ _ (Nat.lt_succ_self _)

/-- the ghost relation `Decoder.Valid.R` of the toy decoder -/
def R (e b : Bytes) (st : ToyState) (c q : Nat) : Prop :=
  c ≤ e.length ∧ q ≤ b.length ∧ G st (e.drop c) (b.drop q)

theorem drop_eq_append {d x y : Bytes} {p : Nat} (hp : p ≤ d.length) (h : d.drop p = x ++ y) :
    p + x.length ≤ d.length ∧ d.drop (p + x.length) = y := by
  have hl := congrArg List.length h
  rw [List.length_drop, List.length_append] at hl
  exact ⟨Nat.add_le_of_le_sub' hp (hl ▸ Nat.le_add_right ..), by rw [← List.drop_drop, h, List.drop_left]⟩

/-- `Decoder.Valid.feed_R` for the toy decoder, about a variable `r` that equals the run (`hr`): the proof then handles
    `r.1` and `r.2`, not ten copies of the `toyGo` term -/
theorem feed_spec (e b : Bytes) (s : ToyState) (c q : Nat) (inp : Bytes) (max : Nat) (hR : R e b s c q)
    (hinp : Piece e c inp) (r : ToyState × Bytes)
    (hr : r = toyGo (2 * inp.length + 2 * max + 8) s inp max []) :
    ∃ c', R e b r.1 c' (q + r.2.length) ∧ Piece b q r.2 ∧ r.2.length ≤ max ∧
      c ≤ c' ∧ c' ≤ c + inp.length ∧ r.1.tail = inp.drop (c' - c) ∧
      (r.2.length < max → c' = c + inp.length) ∧
      (r.1.eof = true ↔ c' = e.length) ∧ (c' = e.length → q + r.2.length = b.length) := by
  obtain ⟨hc, hq, hG⟩ := hR
  -- in terms of what is left: `e.drop c = inp ++ T`, of which the run consumes `ci` and yields `o`
  obtain ⟨T, hT⟩ := Piece.iff_prefix.1 hinp
  rw [← hT] at hG
  -- an iteration consumes a byte of `inp` or emits one of the `max`: `toyDecoder.feed` passes over twice the fuel needed
  have hfuel : inp.length + max < 2 * inp.length + 2 * max + 8 := by omega
  obtain ⟨ci, o, br', h1, h2, h3, h4, h5, h6⟩ := hr ▸ toyGo_spec _ (out := []) hG hfuel
  rw [List.nil_append] at h3
  obtain ⟨hce, he⟩ := drop_eq_append (y := r.1.tail ++ T) hc (by rw [← hT, h1, List.append_assoc])
  obtain ⟨hqb, hb⟩ := drop_eq_append hq h2
  rw [← he, ← hb] at h5
  rw [h3]
  refine ⟨c + ci.length, ⟨hce, hqb, h5⟩, Piece.iff_prefix.2 ⟨br', h2.symm⟩, h4, Nat.le_add_right .., ?_, ?_,
    fun hlt => ?_, ?_, fun hce' => ?_⟩
  · rw [h1, List.length_append]; exact Nat.add_le_add_left (Nat.le_add_right ..) _
  · rw [Nat.add_sub_cancel_left, congrArg (List.drop ci.length) h1, List.drop_left]
  · rw [h1, h6 hlt, List.append_nil]
  · rw [h5.eof_iff, List.drop_eq_nil_iff]
    exact ⟨Nat.le_antisymm hce, fun h => Nat.le_of_eq h.symm⟩
  · rw [hce', List.drop_length] at h5
    exact Nat.le_antisymm hqb (List.drop_eq_nil_iff.1 h5.nil_out)

end Toy

def toy_valid (b : Bytes) : toyDecoder.Valid (toyEnc b) b where
  R := Toy.R (toyEnc b) b
  init_R := by
    refine ⟨Nat.zero_le _, Nat.zero_le _, rfl, ?_⟩
    exact ⟨Or.inl rfl, Toy.toyEnc_Enc b⟩
  init_tail := rfl
  bounds := fun _ _ _ h => ⟨h.1, h.2.1⟩
  feed_R := by
    intro s c q inp max hR _ hinp
    exact Toy.feed_spec (toyEnc b) b s c q inp max hR hinp _ rfl

end Dos.Stream
