/-
The batching loop of `import_objects`: every object handed over by the source goes into exactly one direct-to-pack call, and
what is held in memory stays within the budget, for every budget and order of arrival.
-/
import Dos.ImportCache

namespace Dos.ImportCache

theorem total_nil (sz : Nat → Nat) : total sz [] = 0 := rfl

theorem total_cons (sz : Nat → Nat) (a : Nat) (l : List Nat) : total sz (a :: l) = sz a + total sz l := by
  simp only [total, List.map_cons, List.sum_cons]

theorem total_append (sz : Nat → Nat) (l₁ l₂ : List Nat) : total sz (l₁ ++ l₂) = total sz l₁ + total sz l₂ := by
  simp only [total, List.map_append, List.sum_append]

theorem total_singleton (sz : Nat → Nat) (a : Nat) : total sz [a] = sz a :=
  (total_cons sz a []).trans (Nat.add_zero _)

theorem le_total_of_mem (sz : Nat → Nat) {l : List Nat} {c : Nat} (h : c ∈ l) : sz c ≤ total sz l := by
  induction l with
  | nil => cases h
  | cons a l ih =>
    rw [total_cons]
    cases h with
    | head => exact Nat.le_add_right ..
    | tail _ h' => exact Nat.le_trans (ih h') (Nat.le_add_left ..)

theorem step_big {sz : Nat → Nat} {budget : Nat} {c : Nat} (st : CSt) (h : sz c > budget) :
    step sz budget st c = { st with calls := st.calls ++ [[c]] } :=
  if_pos h

theorem step_flush {sz : Nat → Nat} {budget : Nat} {st : CSt} {c : Nat} (h1 : sz c ≤ budget)
    (h2 : st.size + sz c > budget) : step sz budget st c = { calls := finish st, cache := [c], size := sz c } := by
  rw [step, if_neg (Nat.not_lt.2 h1), if_pos h2]; rfl

theorem step_fit {sz : Nat → Nat} {budget : Nat} {st : CSt} {c : Nat} (h : st.size + sz c ≤ budget) :
    step sz budget st c = { st with cache := st.cache ++ [c], size := st.size + sz c } := by
  rw [step, if_neg (Nat.not_lt.2 (Nat.le_trans (Nat.le_add_left ..) h)), if_neg (Nat.not_lt.2 h)]

/-- what a finished call looks like, relative to the prefix of the stream consumed so far -/
def GoodCall (sz : Nat → Nat) (budget : Nat) (pre : List Nat) (call : List Nat) : Prop :=
  call ≠ [] ∧
  ((∃ c, call = [c] ∧ sz c > budget) ∨ total sz call ≤ budget) ∧
  call.Sublist pre

theorem GoodCall.mono {sz : Nat → Nat} {budget : Nat} {pre : List Nat} {call : List Nat}
    (h : GoodCall sz budget pre call) (l : List Nat) : GoodCall sz budget (pre ++ l) call :=
  ⟨h.1, h.2.1, h.2.2.trans (List.sublist_append_left pre l)⟩

/-- the loop invariant: `pre` is the part of the stream consumed so far -/
structure LoopInv (sz : Nat → Nat) (budget : Nat) (st : CSt) (pre : List Nat) : Prop where
  perm : (st.calls.flatten ++ st.cache).Perm pre
  size_eq : st.size = total sz st.cache
  size_le : st.size ≤ budget
  calls_good : ∀ call ∈ st.calls, GoodCall sz budget pre call
  cache_sub : st.cache.Sublist pre

theorem LoopInv.init (sz : Nat → Nat) (budget : Nat) :
    LoopInv sz budget { calls := [], cache := [], size := 0 } [] :=
  ⟨.refl _, rfl, Nat.zero_le _, nofun, .refl _⟩

theorem LoopInv.finish_perm {sz : Nat → Nat} {budget : Nat} {st : CSt} {pre : List Nat}
    (h : LoopInv sz budget st pre) : (finish st).flatten.Perm pre := by
  unfold finish
  split
  · next he => simpa only [List.isEmpty_iff.1 he, List.append_nil] using h.perm
  · rw [List.flatten_concat]; exact h.perm

theorem LoopInv.finish_good {sz : Nat → Nat} {budget : Nat} {st : CSt} {pre : List Nat}
    (h : LoopInv sz budget st pre) : ∀ call ∈ finish st, GoodCall sz budget pre call := by
  intro call hc
  unfold finish at hc
  split at hc
  · exact h.calls_good call hc
  · next he =>
    rcases List.mem_append.1 hc with hc | hc
    · exact h.calls_good call hc
    · cases List.mem_singleton.1 hc
      exact ⟨fun hnil => he (hnil ▸ rfl), .inr (h.size_eq ▸ h.size_le), h.cache_sub⟩

theorem LoopInv.next {sz : Nat → Nat} {budget : Nat} {st : CSt} {pre : List Nat}
    (h : LoopInv sz budget st pre) (c : Nat) : LoopInv sz budget (step sz budget st c) (pre ++ [c]) := by
  have hpre : pre.Sublist (pre ++ [c]) := List.sublist_append_left pre [c]
  have hc : [c].Sublist (pre ++ [c]) := List.sublist_append_right pre [c]
  rcases Nat.lt_or_ge budget (sz c) with h1 | h1
  · rw [step_big st h1]
    refine ⟨?_, h.size_eq, h.size_le, fun call hm => ?_, h.cache_sub.trans hpre⟩
    · rw [List.flatten_concat, List.append_assoc]
      exact (List.perm_middle.trans (h.perm.cons c)).trans (List.perm_append_singleton c pre).symm
    · rcases List.mem_append.1 hm with hm | hm
      · exact (h.calls_good call hm).mono [c]
      · cases List.mem_singleton.1 hm
        exact ⟨List.cons_ne_nil c [], .inl ⟨c, rfl, h1⟩, hc⟩
  · rcases Nat.lt_or_ge budget (st.size + sz c) with h2 | h2
    · rw [step_flush h1 h2]
      exact ⟨h.finish_perm.append_right [c], (total_singleton sz c).symm, h1,
        fun call hm => (h.finish_good call hm).mono [c], hc⟩
    · rw [step_fit h2]
      exact ⟨(List.append_assoc ..).symm ▸ h.perm.append_right [c], by rw [total_append, total_singleton, h.size_eq],
        h2, fun call hm => (h.calls_good call hm).mono [c], h.cache_sub.append (.refl _)⟩

theorem LoopInv.foldl {sz : Nat → Nat} {budget : Nat} (l : List Nat) {st : CSt} {pre : List Nat}
    (h : LoopInv sz budget st pre) : LoopInv sz budget (l.foldl (step sz budget) st) (pre ++ l) := by
  induction l generalizing st pre with
  | nil => rwa [List.append_nil]
  | cons c l ih => rw [List.append_cons]; exact ih (h.next c)

theorem LoopInv.final (sz : Nat → Nat) (budget : Nat) (stream : List Nat) :
    LoopInv sz budget (stream.foldl (step sz budget) { calls := [], cache := [], size := 0 }) stream :=
  LoopInv.foldl stream (LoopInv.init sz budget)

theorem importCalls_perm (sz : Nat → Nat) (budget : Nat) (stream : List Nat) :
    (importCalls sz budget stream).flatten.Perm stream :=
  (LoopInv.final sz budget stream).finish_perm

theorem importCalls_mem (sz : Nat → Nat) (budget : Nat) (stream : List Nat) (c : Nat) :
    c ∈ (importCalls sz budget stream).flatten ↔ c ∈ stream :=
  (importCalls_perm sz budget stream).mem_iff

theorem importCalls_nonempty (sz : Nat → Nat) (budget : Nat) (stream : List Nat) :
    ∀ call ∈ importCalls sz budget stream, call ≠ [] :=
  fun call hc => ((LoopInv.final sz budget stream).finish_good call hc).1

/-- the memory bound: only a batch within the budget is held in memory; a larger object is streamed on its own -/
theorem importCalls_bounded (sz : Nat → Nat) (budget : Nat) (stream : List Nat) :
    ∀ call ∈ importCalls sz budget stream,
      (∃ c, call = [c] ∧ sz c > budget) ∨ (total sz call ≤ budget ∧ ∀ c ∈ call, sz c ≤ budget) :=
  fun call hc => ((LoopInv.final sz budget stream).finish_good call hc).2.1.imp_right fun h =>
    ⟨h, fun _ hm => Nat.le_trans (le_total_of_mem sz hm) h⟩

/-- inside a call the objects keep their order of arrival (nothing is claimed about the order among calls) -/
theorem importCalls_sublist (sz : Nat → Nat) (budget : Nat) (stream : List Nat) :
    ∀ call ∈ importCalls sz budget stream, call.Sublist stream :=
  fun call hc => ((LoopInv.final sz budget stream).finish_good call hc).2.2

theorem foldl_large (sz : Nat → Nat) (budget : Nat) (l : List Nat) (st : CSt) (h : st.size + total sz l ≤ budget) :
    l.foldl (step sz budget) st = { st with cache := st.cache ++ l, size := st.size + total sz l } := by
  induction l generalizing st with
  | nil => rw [List.foldl_nil, List.append_nil, total_nil, Nat.add_zero]
  | cons c l ih =>
    rw [total_cons, ← Nat.add_assoc] at h
    rw [List.foldl_cons, step_fit (Nat.le_trans (Nat.le_add_right ..) h), ih _ h, List.append_assoc,
      List.singleton_append, total_cons, Nat.add_assoc]

theorem importCalls_large (sz : Nat → Nat) (budget : Nat) (stream : List Nat) (h : total sz stream ≤ budget) :
    importCalls sz budget stream = if stream.isEmpty then [] else [stream] := by
  rw [importCalls, foldl_large sz budget stream _ (by rwa [Nat.zero_add])]
  rfl

theorem foldl_tiny (sz : Nat → Nat) (budget : Nat) (l : List Nat) (h : ∀ c ∈ l, sz c > budget) (st : CSt) :
    l.foldl (step sz budget) st = { st with calls := st.calls ++ l.map (fun c => [c]) } := by
  induction l generalizing st with
  | nil => rw [List.foldl_nil, List.map_nil, List.append_nil]
  | cons c l ih =>
    obtain ⟨hc, h⟩ := List.forall_mem_cons.1 h
    rw [List.foldl_cons, step_big st hc, ih h, List.map_cons, List.append_assoc, List.singleton_append]

theorem importCalls_tiny (sz : Nat → Nat) (budget : Nat) (stream : List Nat) (h : ∀ c ∈ stream, sz c > budget) :
    importCalls sz budget stream = stream.map (fun c => [c]) := by
  rw [importCalls, foldl_tiny sz budget stream h]
  rfl

end Dos.ImportCache
