/-
The properties, stated once each over *whole histories*: every theorem here quantifies over every finite history
`ops` from a freshly initialised container (`Reach`), every content table, every parameter; each is a short corollary of
the theorems in `Dos/Proofs/*` (which are stated per operation, for every state satisfying `Inv`).
-/
import Dos.Proofs.Step
import Dos.Proofs.Read
import Dos.Proofs.Validate
import Dos.Proofs.Denote
import Dos.Proofs.C09
import Dos.Proofs.C10
import Dos.Proofs.C11
import Dos.Proofs.C13
import Dos.Proofs.C14
import Dos.Proofs.IOBasic
import Dos.Proofs.IOPacks
import Dos.Proofs.IORepack
import Dos.Proofs.IOImportProofs
import Dos.Proofs.IOPackAllOProofs
import Dos.Proofs.IORepackAllProofs
import Dos.Proofs.ConcProofs
import Dos.Proofs.BackupProofs
import Dos.Proofs.BatchProofs
import Dos.Proofs.ImportCacheProofs

namespace Dos.Props
open Dos.IO Dos.Conc Dos.Backup

def Reach (t : Tab) (tg : Nat) (ops : List Op) (s : St) : Prop := run t (St.empty tg) ops = some s

theorem reach_inv {t : Tab} (wf : t.WF) {tg : Nat} (htg : 0 < tg) {ops : List Op} {s : St} (h : Reach t tg ops s) :
    Inv t s := inv_run wf (inv_empty t htg) h

theorem has_empty (tg k : Nat) : has (St.empty tg) k = false := rfl

/-! ## C01 / C02: any history behaves like a plain map from keys to contents -/

/-- after any history: membership is that of the plain key set driven by the same operations; a present key reads as its own
    content with its own size; an absent key reads as nothing; the listing is the key set, each key once -/
theorem C02_history_is_map {t : Tab} (wf : t.WF) {tg : Nat} (htg : 0 < tg) {ops : List Op} {s : St}
    (h : Reach t tg ops s) (k : Nat) :
    has s k = specRun (fun _ => false) ops k ∧
    (has s k = true → getc t s k = some k ∧
        ((∃ p o l z, getMeta t s k = some (.packed (t.size k) p o l z)) ∨ getMeta t s k = some (.loose (t.size k)))) ∧
    (has s k = false → getc t s k = none ∧ getMeta t s k = none) ∧
    (k ∈ listAll s ↔ has s k = true) ∧ (listAll s).Nodup := by
  have inv := reach_inv wf htg h
  refine ⟨?_, ?_, ?_, (listAll_spec s).2 k, (listAll_spec s).1⟩
  · rw [has_run wf (inv_empty t htg) h k, funext (has_empty tg)]
  · intro hk
    exact ⟨getc_of_has wf inv hk, getMeta_size inv hk⟩
  · intro hk
    exact ⟨getc_none_of_not_has hk, getMeta_none_of_not_has hk⟩

/-- C01 in one line: whatever was stored by any of the write paths and not deleted since reads back as itself -/
theorem C01_round_trip {t : Tab} (wf : t.WF) {tg : Nat} (htg : 0 < tg) {ops : List Op} {s : St}
    (h : Reach t tg ops s) (k : Nat) (hk : specRun (fun _ => false) ops k = true) : getc t s k = some k := by
  have := C02_history_is_map wf htg h k
  exact (this.2.1 (this.1.trans hk)).1

/-! ## C03: the index and the pack files agree, byte for byte, under any codec -/

theorem C03_index_matches_packs {cd : Codec} {t : Tab} (ag : cd.Agrees t) (wf : t.WF) {tg : Nat} (htg : 0 < tg)
    {ops : List Op} {s : St} (h : Reach t tg ops s) :
    (∀ r ∈ s.rows, ∃ segs, getPack s.packs r.pack = some segs ∧ r.off + r.len ≤ (denPack cd segs).length ∧
        recover cd (denPack cd segs) r = some (cd.bytes r.key) ∧ r.size = (cd.bytes r.key).length ∧
        (r.z = false → r.len = r.size)) ∧
    (∀ r1 ∈ s.rows, ∀ r2 ∈ s.rows, r1 ≠ r2 → r1.pack = r2.pack → r1.off + r1.len ≤ r2.off ∨ r2.off + r2.len ≤ r1.off) ∧
    (∀ r1 ∈ s.rows, ∀ r2 ∈ s.rows, r1.key = r2.key → r1 = r2) := by
  have inv := reach_inv wf htg h
  exact ⟨fun r hr => row_bytes ag inv hr, fun r1 h1 r2 h2 => rows_disjoint inv h1 h2,
    fun r1 h1 r2 h2 => key_indexed_once inv h1 h2⟩

/-! ## C09: one stored copy per key in each form -/

theorem C09_one_copy {t : Tab} (wf : t.WF) {tg : Nat} (htg : 0 < tg) {ops : List Op} {s : St} (h : Reach t tg ops s)
    (k : Nat) : (s.rows.filter (fun r => r.key == k)).length ≤ 1 ∧ (s.loose.filter (fun e => e.1 == k)).length ≤ 1 :=
  ⟨one_row_per_key (reach_inv wf htg h) k, one_loose_per_key (reach_inv wf htg h) k⟩

/-- adding known objects with `no_holes` leaves the index and every pack file as they were (new packs may be created empty) -/
theorem C09_known_objects_leave_no_trace {t : Tab} (wf : t.WF) {tg : Nat} (htg : 0 < tg) {ops : List Op} {s : St}
    (h : Reach t tg ops s) (cs : List Nat) (z : Bool) (hcs : ∀ c ∈ cs, hasRow s c = true) :
    (addPacked t s cs z true).rows = s.rows ∧
    (∀ p segs, getPack s.packs p = some segs → getPack (addPacked t s cs z true).packs p = some segs) :=
  let r := addPacked_noHoles_known (reach_inv wf htg h) cs z hcs
  ⟨r.1, r.2.1⟩

/-! ## C12: a container that only went through the API validates clean -/

theorem C12_validate_clean {t : Tab} (wf : t.WF) {tg : Nat} (htg : 0 < tg) {ops : List Op} {s : St}
    (h : Reach t tg ops s) : (validate t s).clean = true := validate_clean wf (reach_inv wf htg h)

/-! ## C13: without repack, pack files only grow at their end and the numbering has no gaps (that a full pack is never
written again is `full_never_written`, per operation) -/

theorem C13_append_only {t : Tab} (wf : t.WF) {tg : Nat} (htg : 0 < tg) {ops1 ops2 : List Op} {s1 s2 : St}
    (h1 : Reach t tg ops1 s1) (h2 : run t s1 ops2 = some s2) (hno : ∀ op ∈ ops2, op.noRepack = true) :
    ∀ p segs, getPack s1.packs p = some segs → ∃ ext, getPack s2.packs p = some (segs ++ ext) := by
  have _ := reach_inv wf htg h1
  exact append_only_run hno h2

theorem C13_numbered {t : Tab} {tg : Nat} {ops : List Op} {s : St} (h : Reach t tg ops s)
    (hno : ∀ op ∈ ops, op.noRepack = true) : Numbered t s := numbered_reachable hno h

/-! ## C05 / C06 / C17: every operation on every reachable state is safe against a kill, a power loss and a single fault,
at every cut point -/

/-- the contents used by the operation are genuine content ids (below the two reserved markers) -/
def Op.below : Op → Prop
  | .addLoose c => c < garbage
  | .addPacked cs _ _ => ∀ c ∈ cs, c < garbage
  | .importObjs w _ _ _ _ => ∀ c ∈ w, c < garbage
  | _ => True

theorem bounded_step {t : Tab} (wf : t.WF) {s s' : St} (inv : Inv t s) (hb : Bounded s) {op : Op} (hop : Op.below op)
    (h : step t s op = some s') : Bounded s' := by
  intro k hk
  rw [has_step wf inv h k] at hk
  cases op <;> simp only [specHas, Bool.or_eq_true, Bool.and_eq_true, beq_iff_eq, List.contains_iff_mem] at hk
  case addLoose c => exact hk.elim (hb k) (· ▸ hop)
  case addPacked cs _ _ => exact hk.elim (hb k) (hop k)
  case importObjs w _ _ _ _ => exact hk.elim (hb k) (hop k)
  case delete => exact hb k hk.1
  all_goals exact hb k hk

theorem bounded_run {t : Tab} (wf : t.WF) {ops : List Op} {s s' : St} (inv : Inv t s) (hb : Bounded s)
    (hops : ∀ op ∈ ops, Op.below op) (h : run t s ops = some s') : Bounded s' :=
  (run_induct (P := fun s => Inv t s ∧ Bounded s)
    (fun hop hp hs => ⟨inv_step wf hp.1 hs, bounded_step wf hp.1 hp.2 hop hs⟩) hops ⟨inv, hb⟩ h).2

theorem reach_bounded {t : Tab} (wf : t.WF) {tg : Nat} (htg : 0 < tg) {ops : List Op} {s : St} (h : Reach t tg ops s)
    (hops : ∀ op ∈ ops, Op.below op) : Bounded s :=
  bounded_run wf (inv_empty t htg) (fun k hk => by rw [has_empty] at hk; cases hk) hops h

/-- the writers, with the default fsync settings -/
theorem C05_C06_C17_writers_safe {t : Tab} (wf : t.WF) {tg : Nat} (htg : 0 < tg) {ops : List Op} {s : St}
    (h : Reach t tg ops s) (hops : ∀ op ∈ ops, Op.below op) :
    (∀ c, c < garbage → ∀ mk, AllSafe t s (actsAddLoose s c mk) (keysOf s)) ∧
    (∀ cs, (∀ c ∈ cs, c < garbage) → ∀ z nh rt, AllSafe t s (actsAddPacked t s cs z nh rt) (keysOf s)) ∧
    (∀ calls : List (List Nat), (∀ cs ∈ calls, ∀ c ∈ cs, c < garbage) → ∀ z nh rt,
        AllSafe t s (actsImport t s calls z nh rt true) (keysOf s)) ∧
    (∀ order zs cl, (∀ k ∈ order, hasLoose s k = true ∧ hasRow s k = false) → order.Nodup → zs.length = order.length →
        AllSafe t s (actsPackAll t s order zs cl) (keysOf s)) := by
  have inv := reach_inv wf htg h
  have hb := reach_bounded wf htg h hops
  exact ⟨fun c hc mk => Basic.safe_addLoose wf inv hb c hc mk,
    fun cs hcs z nh rt => safe_addPacked wf inv hb cs hcs z nh rt,
    fun calls hc z nh rt => safe_import wf inv hb calls hc z nh rt,
    fun order zs cl ho hn hl => safe_packAll wf inv hb order zs cl ho hn hl⟩

theorem C05_C06_C17_maintenance_safe {t : Tab} (wf : t.WF) {tg : Nat} (htg : 0 < tg) {ops : List Op} {s : St}
    (h : Reach t tg ops s) (hops : ∀ op ∈ ops, Op.below op) :
    (∀ order, (∀ k ∈ order, hasRow s k = true) → AllSafe t s (actsClean s order) (keysOf s)) ∧
    (∀ ks, AllSafe t s (actsDelete s ks) ((keysOf s).filter (fun k => !ks.contains k))) ∧
    (NoTmp s → ∀ p, p ≠ tmpId → ∀ zs, zs.length = (rowsOfPack s.rows p).length →
        AllSafe t s (actsRepackPack t s p zs) (keysOf s)) ∧
    (NoTmp s → ∀ plan, planOK t s plan = true → AllSafe t s (actsRepackAll t s plan) (keysOf s)) := by
  have inv := reach_inv wf htg h
  have hb := reach_bounded wf htg h hops
  exact ⟨fun order ho => Basic.safe_clean wf inv hb order ho, fun ks => Basic.safe_delete wf inv hb ks,
    fun nt p hp zs hz => safe_repackPack wf inv hb nt p hp zs hz, fun nt plan hp => safe_repackAll wf inv hb nt plan hp⟩

/-- with `do_fsync=False` power-loss safety is not promised, kill and fault safety still hold -/
theorem C05_C17_nofsync_safe {t : Tab} (wf : t.WF) {tg : Nat} (htg : 0 < tg) {ops : List Op} {s : St}
    (h : Reach t tg ops s) (hops : ∀ op ∈ ops, Op.below op) :
    (∀ cs, (∀ c ∈ cs, c < garbage) → ∀ z nh rt f, CrashFaultSafe t s (actsAddPackedO t s cs z nh rt f) (keysOf s)) ∧
    (∀ calls : List (List Nat), (∀ cs ∈ calls, ∀ c ∈ cs, c < garbage) → ∀ z nh rt f,
        CrashFaultSafe t s (actsImport t s calls z nh rt f) (keysOf s)) ∧
    (∀ order zs cl, (∀ k ∈ order, hasLoose s k = true ∧ hasRow s k = false) → order.Nodup → zs.length = order.length →
        ∀ f, CrashFaultSafe t s (actsPackAllO t s order zs cl f) (keysOf s)) := by
  have inv := reach_inv wf htg h
  have hb := reach_bounded wf htg h hops
  exact ⟨fun cs hcs z nh rt f => crashfault_addPackedO wf inv hb cs hcs z nh rt f,
    fun calls hc z nh rt f => crashfault_import wf inv hb calls hc z nh rt f,
    fun order zs cl ho hn hl f => crashfault_packAllO wf inv hb order zs cl ho hn hl f⟩

/-! ## C11 / C14 on reachable states -/

theorem C11_delete {t : Tab} (wf : t.WF) {tg : Nat} (htg : 0 < tg) {ops : List Op} {s : St} (h : Reach t tg ops s)
    (ks : List Nat) :
    (∀ k, k ∈ (delete s ks).2 ↔ k ∈ ks ∧ has s k = true) ∧
    (∀ k, has (delete s ks).1 k = (has s k && !ks.contains k)) ∧
    (∀ k, k ∉ ks → getc t (delete s ks).1 k = getc t s k) ∧
    (delete s ks).1.packs = s.packs := by
  have _ := reach_inv wf htg h
  exact ⟨(delete_returns s ks).2, delete_has s ks, fun k hk => (delete_others_unchanged t s ks hk).1, delete_packs s ks⟩

theorem C11_full_repack_compacts {t : Tab} (wf : t.WF) {tg : Nat} (htg : 0 < tg) {ops : List Op} {s s' : St}
    (h : Reach t tg ops s) {m : Mode} {plan : List (Nat × List Nat × List Bool)} (hr : repackAll t m s plan = some s')
    (hall : ∀ p ∈ s.packs.map (·.1), p ∈ plan.map (·.1)) :
    ∀ p segs, getPack s'.packs p = some segs → rowsOfPack s'.rows p ≠ [] ∧ segs = liveSegs s' p :=
  repackAll_compacts (reach_inv wf htg h) hr hall

theorem C14_import_exact {t : Tab} (wf : t.WF) {tg : Nat} (htg : 0 < tg) {ops : List Op} {s s' : St}
    (h : Reach t tg ops s) {w o : List Nat} {z same tr : Bool} (hi : importObjs t s w o z same tr = some s') :
    (∀ k, has s' k = (has s k || w.contains k)) ∧ (∀ k ∈ w, getc t s' k = some k) ∧
    (∀ k, has s k = true → getc t s' k = some k) ∧
    packBytes t s' + refBytes s = packBytes t s + refBytes s' :=
  let e := import_exact wf (reach_inv wf htg h) hi
  ⟨e.1, e.2.1, e.2.2, import_no_junk (reach_inv wf htg h) hi⟩

/-! ## C10 on reachable states: the requested mode is honoured, sizes and lengths are those of the content -/

theorem C10_modes {t : Tab} (wf : t.WF) {tg : Nat} (htg : 0 < tg) {ops : List Op} {s : St} (h : Reach t tg ops s) :
    (∀ r ∈ s.rows, r.size = t.size r.key ∧ (r.len = if r.z = true then t.zlen r.key else t.size r.key)) ∧
    (∀ {m : Mode} {order : List Nat} {zs : List Bool} {cl : Bool} {s' : St}, packAll t s m order zs cl = some s' →
        ∀ r ∈ s'.rows, r ∈ s.rows ∨ (r.key ∈ toPack s ∧ (m = .yes → r.z = true) ∧ (m = .no → r.z = false) ∧ (m = .keep → r.z = false))) ∧
    (∀ {plan : List (Nat × List Nat × List Bool)} {s' : St}, repackAll t .yes s plan = some s' →
        (∀ r ∈ s.rows, r.pack ∈ plan.map (·.1)) → ∀ r ∈ s'.rows, r.z = true) ∧
    (∀ {plan : List (Nat × List Nat × List Bool)} {s' : St}, repackAll t .no s plan = some s' →
        (∀ r ∈ s.rows, r.pack ∈ plan.map (·.1)) → ∀ r ∈ s'.rows, r.z = false) ∧
    (∀ {plan : List (Nat × List Nat × List Bool)} {s' : St}, repackAll t .keep s plan = some s' →
        ∀ r' ∈ s'.rows, ∃ r ∈ s.rows, r'.key = r.key ∧ r'.z = r.z ∧ r'.size = r.size ∧ r'.len = r.len) ∧
    (∀ {m : Mode} {plan : List (Nat × List Nat × List Bool)} {s' : St}, repackAll t m s plan = some s' →
        ∀ k, has s' k = has s k ∧ (has s k = true → getc t s' k = some k)) := by
  have inv := reach_inv wf htg h
  refine ⟨fun r hr => ⟨(row_size_len inv hr).1, (row_size_len inv hr).2.1⟩, fun hp r hr => packAll_new_rows inv hp r hr,
    fun hr hall r hr' => repackAll_yes inv hr hall r hr', fun hr hall r hr' => repackAll_no inv hr hall r hr',
    fun hr r' hr' => ?_, fun {m plan s'} hr k => ?_⟩
  · obtain ⟨r, h1, h2⟩ := repackAll_keep inv hr r' hr'
    exact ⟨r, h1, h2⟩
  · exact ⟨has_repackAll hr k, fun hk => getc_of_has wf (inv_repackAll inv hr) ((has_repackAll hr k).trans hk)⟩

/-! ## C16: batch sizes and lookup strategies cannot matter -/

/-- on every reachable state, for every batch size and scan threshold, the batched computations of `pack_all_loose`,
    `clean_storage` and `delete_objects` are the Level-B operations (whose effect on the key set is `has_step`) -/
theorem C16_maintenance_batching {t : Tab} (wf : t.WF) {tg : Nat} (htg : 0 < tg) {ops : List Op} {s : St} (h : Reach t tg ops s)
    (inMax scanMax : Nat) (hin : 0 < inMax) :
    Batch.packTargets s inMax scanMax = toPack s ∧ Batch.cleanBatched s inMax scanMax = clean s ∧
    (∀ ks, (Batch.deleteBatched s ks inMax).1 = (delete s ks).1 ∧
        (∀ k, k ∈ (Batch.deleteBatched s ks inMax).2 ↔ k ∈ (delete s ks).2) ∧ (Batch.deleteBatched s ks inMax).2.Nodup) := by
  have inv := reach_inv wf htg h
  exact ⟨Batch.packTargets_eq inv inMax scanMax hin, Batch.cleanBatched_eq inv inMax scanMax hin,
    fun ks => ⟨(Batch.deleteBatched_eq inv ks inMax hin).1, (Batch.deleteBatched_eq inv ks inMax hin).2, Batch.deleteBatched_nodup s ks inMax⟩⟩

/-- importing: whatever the memory budget and the order in which the source hands the objects over, each is written in
    exactly one direct-to-pack call, and a batch held in memory never exceeds the budget -/
theorem C14_C18_import_batching (sz : Nat → Nat) (budget : Nat) (stream : List Nat) :
    (ImportCache.importCalls sz budget stream).flatten.Perm stream ∧
    (∀ call ∈ ImportCache.importCalls sz budget stream, call ≠ [] ∧
        ((∃ c, call = [c] ∧ sz c > budget) ∨ (ImportCache.total sz call ≤ budget ∧ ∀ c ∈ call, sz c ≤ budget))) :=
  ⟨ImportCache.importCalls_perm sz budget stream,
   fun call hc => ⟨ImportCache.importCalls_nonempty sz budget stream call hc, ImportCache.importCalls_bounded sz budget stream call hc⟩⟩

example : ImportCache.importCalls (fun c => 10 * c) 45 [1, 2, 9, 3, 0, 4] = [[9], [1, 2], [3, 0], [4]] := by decide

/-! ## C04 / C15 on reachable containers.  C04: every schedule that is `disciplined`, which the library's own packer
programs are under every interleaving (`packAll_disciplined`, `clean_disciplined`, `addPackedO_disciplined`,
`import_disciplined`).  C15: every schedule that is `bdisciplined`, that is `disciplined` with, in addition, `layoutOKb` of
the working copy at every commit; this is a hypothesis, derived for no program (the `example` about `demoBk` below
evaluates it for one schedule).  A reader has finished when its `pc` is 9 (the only place where `res` is set). -/

theorem C04_readers {t : Tab} (wf : t.WF) {tg : Nat} (htg : 0 < tg) {ops : List Op} {s : St} (h : Reach t tg ops s)
    (hops : ∀ op ∈ ops, Op.below op) (wkeys rkeys : List Nat) (hw : ∀ k ∈ wkeys, k < garbage) (sched : List Ev)
    (hd : disciplined t (CSt.init s wkeys rkeys) sched = true) :
    (∀ r ∈ (crun t (CSt.init s wkeys rkeys) sched).readers, r.pc = 9 →
        (r.key ∈ r.ackedAtStart → r.res = some (.ok r.key)) ∧ (r.res = some (.ok r.key) ∨ r.res = some .missing)) ∧
    (∀ k ∈ (crun t (CSt.init s wkeys rkeys) sched).acked,
        k ∈ (crun t (CSt.init s wkeys rkeys) sched).x.rows.map (·.key) ∨
        hasLooseX (crun t (CSt.init s wkeys rkeys) sched).x k = true) := by
  have inv := reach_inv wf htg h
  have hb := reach_bounded wf htg h hops
  exact ⟨fun r hr hpc => ⟨fun hk => reader_correct wf inv hb wkeys rkeys hw sched hd r hr hpc hk,
      reader_never_wrong wf inv hb wkeys rkeys hw sched hd r hr hpc⟩,
    fun k hk => acked_available wf inv hb wkeys rkeys hw sched hd k hk⟩

/-- `phase = 3`: the backup has finished (its last event, `finish`, was accepted) -/
theorem C15_backup {t : Tab} (wf : t.WF) {tg : Nat} (htg : 0 < tg) {ops : List Op} {s : St} (h : Reach t tg ops s)
    (hops : ∀ op ∈ ops, Op.below op) (wkeys rkeys : List Nat) (hw : ∀ k ∈ wkeys, k < garbage) (sched : List BEv)
    (hd : bdisciplined t (BSt.init (CSt.init s wkeys rkeys)) sched = true) (hnw : noWal sched = true)
    (hfin : (brun t (BSt.init (CSt.init s wkeys rkeys)) sched).phase = 3) :
    SafeImg t (image (brun t (BSt.init (CSt.init s wkeys rkeys)) sched))
        (brun t (BSt.init (CSt.init s wkeys rkeys)) sched).atStart ∧
    Inv t (image (brun t (BSt.init (CSt.init s wkeys rkeys)) sched)) ∧
    (validate t (image (brun t (BSt.init (CSt.init s wkeys rkeys)) sched))).clean = true := by
  have inv := reach_inv wf htg h
  have hb := reach_bounded wf htg h hops
  exact ⟨backup_reads_safe wf inv hb wkeys rkeys hw sched hd hnw hfin, backup_valid wf inv hb wkeys rkeys hw sched hd hnw hfin⟩

/-! ## the hypotheses are met: concrete non-trivial histories -/

def demoTab : Tab := { size := fun c => 10 * c + 5, zlen := fun c => c + 3 }

def demoOps : List Op :=
  [.addLoose 1, .addPacked [2, 3, 2] true false, .addLoose 4, .packAll .no [1, 4] [false, false] false, .clean,
   .delete [3], .addPacked [5] false true, .reopen, .loosen 2]

example : ∃ s, Reach demoTab 40 demoOps s ∧ has s 1 = true ∧ has s 3 = false ∧ has s 5 = true ∧ s.packs.length ≥ 2 :=
  ⟨(run demoTab (St.empty 40) demoOps).get (by decide +kernel), (Option.some_get _).symm, by decide +kernel⟩

theorem demoTab_wf : demoTab.WF := ⟨fun c => by simp [demoTab], fun a b ha hb => by simp [demoTab] at ha⟩

example : ∀ op ∈ demoOps, Op.below op := by
  intro op hop
  simp [demoOps] at hop
  rcases hop with rfl | rfl | rfl | rfl | rfl | rfl | rfl | rfl | rfl <;> simp [Op.below, garbage]

example : ∀ op ∈ demoOps, op.noRepack = true := by decide

/-! ### C04 / C15: a concrete interleaving in which the packer packs and cleans while a reader holds an old snapshot and a
writer publishes, and a concrete backup taken meanwhile, meet the hypotheses (and exercise the retry path) -/

def demoS : St := (run demoTab (St.empty 40) [.addLoose 1, .addLoose 2]).get (by decide)
def demoS2 : St := (packAll demoTab demoS .no [1, 2] [false, false] false).get (by decide)

def demoSched : List Ev :=
  [.pin 0, .wcheck 0] ++ (actsPackAll demoTab demoS [1, 2] [false, false] false).map .pk ++ [.wpublish 0, .wack 0] ++
  (actsClean demoS2 [1, 2]).map .pk ++ [.look 0, .openLoose 0, .repin 0, .look2 0, .readPack 0]

example : disciplined demoTab (CSt.init demoS [3] [1]) demoSched = true ∧
    (crun demoTab (CSt.init demoS [3] [1]) demoSched).readers.map (fun r => (r.pc, r.res)) = [(9, some (.ok 1))] ∧
    (crun demoTab (CSt.init demoS [3] [1]) demoSched).acked = [3, 1, 2] := by decide +kernel

def demoBk : List BEv :=
  [.start, .cpLoose 1] ++ (actsPackAll demoTab demoS [1, 2] [false, false] false).map (fun a => .sys (.pk a)) ++
  [.sys (.wcheck 0), .sys (.wpublish 0), .sys (.wack 0), .cpLoose 2] ++ (actsClean demoS2 [1]).map (fun a => .sys (.pk a)) ++
  [.dumpIndex, .cpPack 0] ++ (actsClean demoS2 [2]).map (fun a => .sys (.pk a)) ++ [.finish]

example : bdisciplined demoTab (BSt.init (CSt.init demoS [3] [])) demoBk = true ∧ noWal demoBk = true ∧
    (brun demoTab (BSt.init (CSt.init demoS [3] [])) demoBk).phase = 3 ∧
    (brun demoTab (BSt.init (CSt.init demoS [3] [])) demoBk).atStart = [1, 2] ∧
    [1, 2, 3].map (readFresh demoTab (image (brun demoTab (BSt.init (CSt.init demoS [3] [])) demoBk))) =
      [.ok 1, .ok 2, .missing] := by decide +kernel

/-- the side conditions of the Level-C theorems (`safe_packAll`, `safe_clean`, `safe_repackPack`) are met by the demonstration
    states -/
example : (∀ k ∈ [1, 2], hasLoose demoS k = true ∧ hasRow demoS k = false) ∧ [1, 2].Nodup ∧
    (∀ k ∈ [1, 2], hasRow demoS2 k = true) ∧ (rowsOfPack demoS2.rows 0).length = 2 ∧
    (demoS2.packs.all (fun e => e.1 != tmpId) && demoS2.rows.all (fun r => r.pack != tmpId)) = true := by decide +kernel

end Dos.Props
