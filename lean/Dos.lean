import Dos.Store
import Dos.Ops
import Dos.Inv
import Dos.IO
import Dos.IOImport
import Dos.ImportCache
import Dos.Sample
import Dos.BackupFolders
import Dos.Batch
import Dos.IOPackAllO
import Dos.IORepackAll
import Dos.Wire
import Dos.StoreDriver
import Dos.Stream
import Dos.StreamDriver
import Dos.StreamSpec
import Dos.Merge
import Dos.MergeDriver
import Dos.Multi
import Dos.MultiBulk
import Dos.MultiDriver
import Dos.Conc
import Dos.ConcDriver
import Dos.Backup
import Dos.BackupDriver
import Dos.Proofs.ListAux
import Dos.Proofs.Basic
import Dos.Proofs.Read
import Dos.Proofs.InvOps
import Dos.Proofs.Session
import Dos.Proofs.InvRepack
import Dos.Proofs.HasStep
import Dos.Proofs.Step
import Dos.Proofs.Validate
import Dos.Proofs.Denote
import Dos.Proofs.C09
import Dos.Proofs.C10
import Dos.Proofs.C11
import Dos.Proofs.C13
import Dos.Proofs.C14
import Dos.IOSpec
import Dos.Proofs.StreamRef
import Dos.Proofs.StreamPacked
import Dos.Proofs.StreamDecomp
import Dos.Proofs.StreamToy
import Dos.Proofs.MergeProofs
import Dos.Proofs.IOLib
import Dos.Proofs.IOGood
import Dos.Proofs.IOBasic
import Dos.Proofs.IOWriter
import Dos.Proofs.OpenCur
import Dos.Proofs.IOEmits
import Dos.Proofs.IOSim
import Dos.Proofs.IOPacks
import Dos.Proofs.IORepackAux
import Dos.Proofs.IORepack
import Dos.Proofs.MultiProofs
import Dos.Proofs.ConcAux
import Dos.Proofs.ConcProofs
import Dos.Fd
import Dos.Proofs.FdAux
import Dos.Proofs.FdProofs
import Dos.Proofs.BackupAux
import Dos.Proofs.BackupProofs
import Dos.Bytes
import Dos.Proofs.BytesProofs
import Dos.Proofs.IOImportProofs
import Dos.Proofs.IOPackAllOProofs
import Dos.Props
import Dos.Proofs.FdOProofs
import Dos.Proofs.MultiBulkAux
import Dos.Proofs.MultiBulkProofs
import Dos.Proofs.ImportCacheProofs
import Dos.Proofs.BatchProofs
import Dos.Proofs.SampleProofs
import Dos.Proofs.BackupFoldersProofs
import Dos.Proofs.IORepackAllProofs
import Dos.Proofs.ConcWalk
import Dos.Proofs.ConcDirect
